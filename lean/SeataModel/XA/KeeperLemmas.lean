/- helper lemmas about the keeper model (XA/Keeper.lean); the property theorems are in Props/C17.lean -/
import SeataModel.XA.Keeper
namespace Seata.XA.Keeper

theorem kept_markPrepared (x : Nat) (l : List (Nat × Bool)) : (markPrepared x l).map (·.1) = l.map (·.1) := by
  induction l with
  | nil => rfl
  | cons a r ih =>
    obtain ⟨y, p⟩ := a
    unfold markPrepared
    split <;> simp [ih]

theorem kept_filter {p : Nat × Bool → Bool} {l : List (Nat × Bool)} {y : Nat}
    (h : y ∈ (l.filter p).map (·.1)) : y ∈ l.map (·.1) :=
  List.map_subset _ List.filter_sublist.subset h

/-- only `begin` adds a branch to the keeper: the other operations change flags, filter the list or clear it -/
theorem kept_step (s : St) (o : Op) (y : Nat) (hy : y ∈ kept (step s o)) : y ∈ kept s ∨ o = .begin y := by
  cases o with
  | begin x =>
    simp only [kept, step] at hy ⊢
    split at hy
    · exact .inl hy
    · rw [List.map_append, List.mem_append, List.map_cons, List.map_nil, List.mem_singleton] at hy
      exact hy.imp_right (congrArg Op.begin <| Eq.symm ·)
  | prepare =>
    simp only [kept, step] at hy ⊢
    split at hy
    · exact .inl (kept_markPrepared .. ▸ hy)
    · exact .inl hy
  | fail =>
    simp only [kept, step] at hy ⊢
    split at hy
    · exact .inl (kept_filter hy)
    · exact .inl hy
  | finish x => exact .inl (kept_filter hy)
  | tick =>
    simp only [kept, step] at hy ⊢
    split at hy
    · exact .inl hy
    · split at hy
      · simp at hy
      · exact .inl hy

theorem run_replicate_fixed {s : St} {o : Op} (h : step s o = s) (n : Nat) : run s (List.replicate n o) = s := by
  induction n with
  | zero => rfl
  | succ k ih => rw [List.replicate_succ, run, List.foldl_cons, h]; exact ih

end Seata.XA.Keeper
