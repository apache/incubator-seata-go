/-
  Lock discipline of the client's shared registries and caches (C20).

  `Access` is one syntactic access to a field that lives next to a mutex, with the locks held at
  that point; the list of all accesses is GENERATED from the Go sources on every run by
  /verif/lockfacts (go/ast) into `Gen/LockFacts.lean`.  `guards` is the hand-written expectation:
  which lock protects which shared field.
-/
namespace Seata.Conc

structure Access where
  owner : String          -- package directory + type, or package directory for package-level variables
  field : String
  fn : String
  write : Bool
  held : List String      -- locks syntactically held at the access
  site : String           -- file:line
  ctor : Bool             -- inside a constructor / initialiser (no other goroutine can see the value yet)
  goroutine : Bool        -- inside a `go` statement's function literal
  deriving Repr, DecidableEq

structure Guard where
  owner : String
  field : String
  lock : String
  deriving Repr, DecidableEq

/-- the shared registries and caches and the lock each field is protected by -/
def guards : List Guard := [
  { owner := "pkg/datasource/sql/datasource/base.BaseTableMetaCache", field := "cache",
    lock := "pkg/datasource/sql/datasource/base.BaseTableMetaCache.lock" },
  { owner := "pkg/datasource/sql/datasource.BasicSourceManager", field := "tableMetaCache",
    lock := "pkg/datasource/sql/datasource.BasicSourceManager.lock" },
  { owner := "pkg/datasource/sql", field := "txHooks", lock := "pkg/datasource/sql.hl" },
  { owner := "pkg/protocol/codec.CodecManager", field := "codecMap", lock := "pkg/protocol/codec.CodecManager.mutex" },
  { owner := "pkg/remoting/loadbalance.Consistent", field := "sortedHashNodes",
    lock := "pkg/remoting/loadbalance.Consistent.<embedded>" },
  { owner := "pkg/remoting/loadbalance.Consistent", field := "hashCircle",
    lock := "pkg/remoting/loadbalance.Consistent.<embedded>" },
  { owner := "pkg/discovery.EtcdRegistryService", field := "grouplist", lock := "pkg/discovery.EtcdRegistryService.rwLock" },
  { owner := "pkg/discovery.EtcdRegistryService", field := "vgroupMapping", lock := "pkg/discovery.EtcdRegistryService.rwLock" }
]

def guardOf (a : Access) : Option Guard := guards.find? fun g => g.owner == a.owner && g.field == a.field

/-- an access respects the discipline: not a guarded field, or inside a constructor, or its lock is held -/
def ok (a : Access) : Bool :=
  match guardOf a with
  | none => true
  | some g => a.ctor || a.held.contains g.lock

def violations (accs : List Access) : List Access := accs.filter fun a => !ok a

/-- sites excused as open known findings -/
def disciplined (known : List String) (accs : List Access) : Bool :=
  (violations accs).all fun a => known.contains a.site

/-- a field of a shared owner that is WRITTEN under some lock somewhere must be in `guards`
    (so that a newly protected field cannot escape the table) -/
def sharedOwners : List String := (guards.map (·.owner)).eraseDups

def covered (accs : List Access) : Bool :=
  accs.all fun a => !(sharedOwners.contains a.owner) || !a.write || a.held.isEmpty || (guardOf a).isSome

theorem held_of_ok {a : Access} {g : Guard} (hg : guardOf a = some g) (hc : a.ctor = false) (h : ok a = true) :
    g.lock ∈ a.held := by
  simpa [ok, hg, hc] using h

/-- what `disciplined` establishes -/
theorem disciplined_sound (known : List String) (accs : List Access) (h : disciplined known accs = true) :
    ∀ a ∈ accs, ∀ g, guardOf a = some g → a.ctor = false → a.site ∉ known → g.lock ∈ a.held := by
  intro a ha g hg hc hk
  -- an access that is not `ok` is a violation, and `h` puts the site of every violation among the known ones
  refine held_of_ok hg hc (Decidable.by_contra fun hok => hk ?_)
  simpa using List.all_eq_true.mp h a (List.mem_filter.mpr ⟨ha, by simpa using hok⟩)

/-- two accesses to the same guarded field, both respecting the discipline and neither in a
    constructor, hold a common lock: they cannot run at the same time unless both only read-lock -/
theorem common_lock (a b : Access) (g : Guard) (ha : guardOf a = some g) (hb : guardOf b = some g)
    (oka : ok a = true) (okb : ok b = true) (ca : a.ctor = false) (cb : b.ctor = false) :
    g.lock ∈ a.held ∧ g.lock ∈ b.held :=
  ⟨held_of_ok ha ca oka, held_of_ok hb cb okb⟩

end Seata.Conc
