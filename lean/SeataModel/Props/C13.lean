/-
  C13 — the frame reader survives any fragmentation of the byte stream.
-/
import SeataModel.Lemmas.Frame
namespace Seata.Props.C13
open Seata.Frame

/-- A complete frame (followed by anything) is delivered as the original message with exactly its
    own length consumed. -/
theorem C13_whole (m : RpcMsg) (rest : Bytes) (hwf : WF m) :
    readFrame (writeFrame m ++ rest) = .frame m (writeFrame m).length := by
  rw [writeFrame_length]; exact readFrame_whole m rest hwf

/-- EVERY strict prefix of a frame — a cut inside the 16-byte header, inside the head map or inside
    the body — is answered "need more data": nothing consumed, nothing fabricated, no error. -/
theorem C13_prefix (m : RpcMsg) (p s : Bytes) (hwf : WF m) (hps : p ++ s = writeFrame m) (hs : s ≠ []) :
    readFrame p = .needMore :=
  readFrame_prefix m p s hwf hps hs

/-- A truncated stream: whatever has arrived so far (cut anywhere, in any chunks) yields exactly
    the frames that are complete, in order, and keeps the incomplete tail buffered untouched, on
    which the loop stays quiet (no delivery, no error, no consumption) until more bytes arrive. -/
theorem C13_truncated (ms : List RpcMsg) (chunks : List Bytes) (S : Bytes) (hwf : ∀ m ∈ ms, WF m)
    (h : chunks.flatten ++ S = (ms.map writeFrame).flatten) :
    ∃ done rest p, ms = done ++ rest ∧ Quiet p ∧ p ++ S = frames rest ∧
      feed chunks = { delivered := done, buf := p, closed := false } := by
  have := feed_general chunks S [] [] ms hwf quiet_nil (by simpa [frames] using h)
  simpa [feed] using this

/-- For ALL message sequences and ALL partitions of the concatenated bytes into chunks (including
    empty chunks), the receive loop delivers exactly the original messages, in order, leaves no
    residue and never closes the session. -/
theorem C13_any_partition (ms : List RpcMsg) (chunks : List Bytes) (hwf : ∀ m ∈ ms, WF m)
    (h : chunks.flatten = (ms.map writeFrame).flatten) :
    feed chunks = { delivered := ms, buf := [], closed := false } := by
  -- nothing is missing from the stream, so the quiet remainder is a whole stream itself, hence empty
  obtain ⟨done, rest, p, rfl, hq, hp, hf⟩ := C13_truncated ms chunks [] hwf (by simpa using h)
  obtain ⟨rfl, rfl⟩ := quiet_frames_nil p rest (fun m hm => hwf m (by simp [hm])) hq (by simpa using hp)
  simpa using hf

/-- progress: a delivered frame always consumes at least the 16-byte header and never more than is
    buffered — the transport loop cannot spin on a zero-length delivery. -/
theorem C13_progress (bs : Bytes) (m : RpcMsg) (n : Nat) (h : readFrame bs = .frame m n) :
    16 ≤ n ∧ n ≤ bs.length := by
  simp only [readFrame] at h
  -- only the last branch returns a frame, and it has passed the three guards on the lengths
  repeat' split at h
  all_goals cases h
  simp only [Bool.or_eq_true, decide_eq_true_eq, not_or, Nat.not_lt] at *
  omega

/-- bytes that do not start with the magic are rejected (session closed), never delivered -/
theorem C13_bad_magic (a b : UInt8) (r : Bytes) (h : ¬ (a = 0xda ∧ b = 0xda)) :
    readFrame (a :: b :: r) = .bad := by
  simp [readFrame, magicOK, h]

/-- head-map entries — including empty keys and empty values — survive a write/read round trip -/
theorem C13_headmap_roundtrip (kvs : List (Bytes × Bytes))
    (h : ∀ kv ∈ kvs, kv.1.length < 256 ^ 2 ∧ kv.2.length < 256 ^ 2) :
    decodeHM (encodeHM kvs).length (encodeHM kvs) = some kvs :=
  decodeHM_encodeHM kvs _ (length_le_encodeHM kvs) h

/-! The reader as coded at the pinned commit c3b0bd5 (before the `fix:`): the header was parsed from
    whatever bytes were present, short reads yielding zeros.  Its length logic alone already
    fabricates a zero-length delivery from a 3-byte input, on which the transport loop spins. -/
def readLenAsCoded_c3b0bd5 (bs : Bytes) : Option Nat :=
  let padded := bs ++ List.replicate 16 0
  if !(padded.take 2 == [0xda, 0xda]) then none        -- error
  else
    let total := field padded 3 4
    if bs.length < total then none                     -- need more
    else some total                                    -- deliver, consume `total`

theorem C13_asCoded_c3b0bd5_spins : readLenAsCoded_c3b0bd5 [0xda, 0xda, 1] = some 0 := by decide

/-! Non-vacuity -/
example : WF { id := 7, type := 0, codec := 1, comp := 0, head := [([], [0x61]), ([0x6b], [])], body := [0, 3, 1, 2] } := by
  unfold WF; decide

example : feed [[0xda], [0xda, 1, 0, 0, 0], [16, 0, 16, 3, 1, 0, 0, 0, 0, 9, 0xda]]
    = { delivered := [{ id := 9, type := 3, codec := 1, comp := 0, head := [], body := [] }], buf := [0xda], closed := false } := by
  decide +kernel

end Seata.Props.C13
