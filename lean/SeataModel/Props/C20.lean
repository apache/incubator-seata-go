/-
  C20 — concurrent use of one client is free of data races and lock-ups (the part a proof can carry:
  the lock discipline of the shared registries and caches, over facts regenerated from the sources).

  `Gen.accesses` is produced by /verif/lockfacts on every run; `Gen.knownSites` lists the sites of open
  known findings (from /verif/known_findings.json).  The race detector run of the harness is the other
  half of the check: it exercises the same registries on the real code.

  The table checks are `decide +kernel`: plain `decide` has the elaborator evaluate the table first, at more
  than the kernel's cost, and the kernel evaluates it again all the same.
-/
import SeataModel.Gen.LockFacts
import SeataModel.Gen.KnownSites
namespace Seata.Props.C20
open Seata.Conc Seata.Gen

/-- every access to a guarded field of a shared registry holds the field's lock (constructors and
    open known findings aside) -/
theorem C20_lock_discipline : disciplined knownSites accesses = true := by decide +kernel

/-- every field of a shared registry that is accessed under a lock is in the guard table -/
theorem C20_guard_table_covers : covered accesses = true := by decide +kernel

/-- consequence, for every access of the generated list -/
theorem C20_every_access_guarded :
    ∀ a ∈ accesses, ∀ g, guardOf a = some g → a.ctor = false → a.site ∉ knownSites → g.lock ∈ a.held :=
  disciplined_sound knownSites accesses C20_lock_discipline

/-- the known sites are violations indeed (a stale entry would make this fail) -/
theorem C20_known_sites_are_violations : knownSites.all (fun s => (violations accesses).any (·.site == s)) = true := by decide +kernel

end Seata.Props.C20
