/-
  C19 — only live sessions are chosen; reconnection restores both directions.
-/
import SeataModel.Remoting.LoadBalance
namespace Seata.Props.C19
open Seata.LB

theorem mem_openS {s : Sess} {ss : List Sess} : s ∈ openS ss ↔ s ∈ ss ∧ s.closed = false := by
  simp [openS]

theorem allowed_sub_open (p : Policy) (st : State) (xid : String) :
    ∀ s ∈ allowed p st xid, s ∈ openS st.sessions := by
  intro s hs
  cases p <;> simp only [allowed] at hs
  · exact hs
  · split at hs
    · split at hs
      · exact hs
      · exact (List.mem_filter.mp hs).1
    · exact hs
  · split at hs
    · simp at hs
    · split at hs
      · exact (List.mem_filter.mp hs).1
      · simp at hs
  · exact (List.mem_filter.mp hs).1
  · exact hs

/-- Whatever the policy, the random choice, the map order and the HISTORY of opens, closes, releases
    and earlier selections: a chosen session is currently registered and open. -/
theorem C19_live (p : Policy) (ops : List Op) (st0 : State) (xid : String) :
    ∀ s ∈ allowed p (runOps st0 ops) xid, s ∈ (runOps st0 ops).sessions ∧ s.closed = false := by
  intro s hs
  exact mem_openS.mp (allowed_sub_open p _ xid s hs)

theorem minNat_mem (l : List Nat) (h : l ≠ []) : minNat l ∈ l := by
  cases l with
  | nil => exact absurd rfl h
  | cons a r =>
    simp only [minNat]
    clear h
    induction r generalizing a with
    | nil => simp
    | cons b r ih =>
      rcases List.mem_cons.1 (ih (Nat.min a b)) with h | h
      · rw [List.foldl_cons, h]; by_cases hab : a ≤ b <;> simp [Nat.min_def, hab]
      · simp [h]

theorem sortStrings_perm (l : List String) : (sortStrings l).Perm l := by
  have ins : ∀ a l, (insertSorted a l).Perm (a :: l) := by
    intro a l
    induction l with
    | nil => exact .refl _
    | cons b r ih =>
      simp only [insertSorted]
      split
      · exact .refl _
      · exact (ih.cons b).trans (.swap a b r)
  induction l with
  | nil => exact .refl _
  | cons a r ih => exact (ins a _).trans (ih.cons a)

theorem distinctCount_pos_le (l : List String) (h : l ≠ []) : 0 < distinctCount l ∧ distinctCount l ≤ l.length := by
  induction l with
  | nil => exact absurd rfl h
  | cons a r ih =>
    cases r with
    | nil => simp [distinctCount]
    | cons b r' =>
      have := ih (by simp)
      simp only [distinctCount, List.length_cons] at this ⊢
      split <;> omega

theorem filter_key_ne_nil {κ : Type} [BEq κ] [LawfulBEq κ] (key : Sess → κ) {o : List Sess} {k : κ}
    (h : k ∈ o.map key) : o.filter (fun s => key s == k) ≠ [] := by
  obtain ⟨x, hx, rfl⟩ := List.mem_map.1 h
  exact List.ne_nil_of_mem (List.mem_filter.2 ⟨hx, beq_self_eq_true _⟩)

/-- nil is returned only when no session is open (and then always) -/
theorem C19_nil_iff (p : Policy) (st : State) (xid : String) :
    allowed p st xid = [] ↔ openS st.sessions = [] := by
  -- from right to left every policy computes on `[]`; only `.xid` keeps an `if`, both arms of which are `[]`
  refine ⟨fun h => ?_, fun h => by cases p <;> simp [allowed, h, sortStrings, distinctCount]; split <;> rfl⟩
  false_or_by_contra
  rename_i ho
  revert h
  cases p <;> simp only [allowed]
  · exact ho
  · split
    · split
      · exact ho
      · next hne => exact fun h => hne (by simp [h])
    · exact ho
  · -- round robin: the address picked is the address of an open session
    have hperm := sortStrings_perm ((openS st.sessions).map (·.addr))
    generalize sortStrings ((openS st.sessions).map (·.addr)) = S at hperm
    have hS : S ≠ [] := fun h => ho (List.map_eq_nil_iff.1 (h ▸ hperm).symm.eq_nil)
    have ⟨hpos, hle⟩ := distinctCount_pos_le S hS
    have hidx : st.seq % distinctCount S < S.length := Nat.lt_of_lt_of_le (Nat.mod_lt _ hpos) hle
    rw [if_neg (by simp; omega), List.getElem?_eq_getElem hidx]
    exact filter_key_ne_nil (·.addr) (hperm.mem_iff.1 (List.getElem_mem hidx))
  · -- least active: the least count is the count of an open session
    exact filter_key_ne_nil (fun s => activeOf st s.addr) (minNat_mem _ (by simpa using ho))
  · exact ho

/-- XID policy: an xid of the form ip:port:id goes to an open session connected to ip:port whenever
    there is one -/
theorem C19_xid_affinity (st : State) (xid a : String) (hx : xidAddr xid = some a)
    (hex : ∃ s ∈ st.sessions, s.closed = false ∧ s.addr = a) :
    allowed .xid st xid ≠ [] ∧ ∀ s ∈ allowed .xid st xid, s.addr = a ∧ s.closed = false ∧ s ∈ st.sessions := by
  have hne : (openS st.sessions).filter (fun s => s.addr == a) ≠ [] := by
    obtain ⟨s0, hs0, hc0, rfl⟩ := hex
    exact filter_key_ne_nil (·.addr) (List.mem_map.2 ⟨s0, mem_openS.2 ⟨hs0, hc0⟩, rfl⟩)
  have hal : allowed .xid st xid = (openS st.sessions).filter (fun s => s.addr == a) := by
    simp [allowed, hx, hne]
  rw [hal]
  refine ⟨hne, fun s hs => ?_⟩
  have h1 := List.mem_filter.1 hs
  have h2 := mem_openS.1 h1.1
  exact ⟨by simpa using h1.2, h2.2, h2.1⟩

/-- Counter-example against the shape at c3b0bd5 (consistent hash): with a ring built over sessions
    1 and 2, after session 1 is lost the policy may still hand out session 1 — a closed session. -/
theorem C19_asCoded_ring_returns_closed :
    let st := runOps {} [.open_ 1 "10.0.0.1:8091", .open_ 2 "10.0.0.2:8091", .select .consistentHash "x", .close 1]
    ∃ s ∈ allowedAsCoded_c3b0bd5 st, s.closed = true := by
  refine ⟨{ id := 1, addr := "10.0.0.1:8091", closed := true }, ?_, rfl⟩
  decide

/-! Reconnection: what the client announces on a new session. -/

inductive Announce | tm | rm (resource : String)
  deriving Repr, DecidableEq

/-- the documented behaviour: transaction manager and every registered resource -/
def announceSpec (resources : List String) : List Announce := .tm :: resources.map .rm
/-- the code (listener.go OnOpen, then the hook package rm registers with `RegisterOnSessionOpen`): the
transaction manager first, then one RegisterRMRequest per cached resource of every resource manager -/
def announce (resources : List String) : List Announce := .tm :: resources.map .rm
/-- the code before the repair (finding C19-rm-not-reannounced): the transaction manager only -/
def announceBeforeFix (_resources : List String) : List Announce := [.tm]

theorem C19_reannounce_spec (resources : List String) :
    .tm ∈ announceSpec resources ∧ ∀ r ∈ resources, .rm r ∈ announceSpec resources := by
  simp [announceSpec]

/-- every resource registered before the connection was lost is announced on the new session, after the
transaction manager, and nothing else is -/
theorem C19_reannounce (resources : List String) :
    announce resources = announceSpec resources ∧
    (announce resources).head? = some .tm ∧
    (∀ r ∈ resources, .rm r ∈ announce resources) ∧
    (∀ r, .rm r ∈ announce resources → r ∈ resources) ∧
    (announce resources).length = resources.length + 1 := by
  refine ⟨rfl, rfl, (C19_reannounce_spec resources).2, ?_, ?_⟩ <;> simp [announce]

theorem C19_before_fix_resource_forgotten (r : String) (rest : List String) :
    Announce.rm r ∉ announceBeforeFix (r :: rest) := by
  simp [announceBeforeFix]

/-! A request that waits for a session: `waitPick` (the loop as it took the first open session, whatever the
    policy; `waitAllowedBeforeFix` is defined by it) and `waitAllowed` (the loop at HEAD, which asks the policy at
    every tick). -/

theorem waitPick_eq (ticks : List (List Sess)) : waitPick ticks = ticks.findSome? firstOpen := by
  induction ticks with
  | nil => rfl
  | cons reg rest ih => rw [waitPick, ih, List.findSome?_cons]; cases firstOpen reg <;> rfl

/-- whatever appears in the registry while a request waits, the session it is handed is open and was
    registered at the tick it was taken -/
theorem C19_wait_open (ticks : List (List Sess)) (s : Sess) (h : waitPick ticks = some s) :
    s.closed = false ∧ ∃ reg ∈ ticks, s ∈ reg := by
  obtain ⟨reg, hr, hf⟩ := List.exists_of_findSome?_eq_some (waitPick_eq ticks ▸ h)
  exact ⟨by simpa using List.find?_some hf, reg, hr, List.mem_of_find?_eq_some hf⟩

/-- nil only when no open session ever appeared -/
theorem C19_wait_nil (ticks : List (List Sess)) (h : waitPick ticks = none) :
    ∀ reg ∈ ticks, ∀ s ∈ reg, s.closed = true := by
  intro reg hr s hs
  have := List.find?_eq_none.1 (List.findSome?_eq_none_iff.1 (waitPick_eq ticks ▸ h) reg hr) s hs
  simpa using this

theorem waitAllowed_mem {p : Policy} {xid : String} {ticks : List (List Sess)} {s : Sess}
    (h : s ∈ waitAllowed p xid ticks) : ∃ reg ∈ ticks, s ∈ allowed p { sessions := reg } xid := by
  induction ticks with
  | nil => cases h
  | cons reg rest ih =>
    simp only [waitAllowed] at h
    split at h
    · obtain ⟨reg', hr, hs⟩ := ih h
      exact ⟨reg', .tail _ hr, hs⟩
    · exact ⟨reg, .head _, h⟩

/-- a request that had to wait is routed like any other: under the XID policy, when an open session to the
    coordinator its xid names is there at the tick that ends the wait, it gets one of those - and in every case an
    open session that was registered at that tick -/
theorem C19_wait_follows_xid (xid : String) (ticks : List (List Sess)) (s : Sess)
    (h : s ∈ waitAllowed .xid xid ticks) :
    s.closed = false ∧ ∃ reg ∈ ticks, s ∈ reg ∧
      ∀ a, xidAddr xid = some a → (∃ t ∈ reg, t.closed = false ∧ t.addr = a) → s.addr = a := by
  obtain ⟨reg, hr, hs⟩ := waitAllowed_mem h
  have := mem_openS.1 (allowed_sub_open .xid _ xid s hs)
  exact ⟨this.2, reg, hr, this.1, fun a hx hex => ((C19_xid_affinity { sessions := reg } xid a hx hex).2 s hs).1⟩

/-- and whatever the policy: the session is open and was registered at some tick; nil only when no policy could
    choose at any tick, i.e. no open session ever appeared -/
theorem C19_wait_policy_open (p : Policy) (xid : String) (ticks : List (List Sess)) (s : Sess)
    (h : s ∈ waitAllowed p xid ticks) : s.closed = false ∧ ∃ reg ∈ ticks, s ∈ reg := by
  obtain ⟨reg, hr, hs⟩ := waitAllowed_mem h
  have := mem_openS.1 (allowed_sub_open p _ xid s hs)
  exact ⟨this.2, reg, hr, this.1⟩

/-- before the repair the waiting request took the first open session of the registry: with sessions to two
    coordinators open at that tick, a request for the transaction of the second could go to the first -/
theorem C19_before_fix_wait_ignores_xid :
    waitAllowedBeforeFix [[], [{ id := 1, addr := "10.0.0.1:8091", closed := false }, { id := 2, addr := "10.0.0.2:8091", closed := false }]]
      = [{ id := 1, addr := "10.0.0.1:8091", closed := false }] ∧
    waitAllowed .xid "10.0.0.2:8091:77" [[], [{ id := 1, addr := "10.0.0.1:8091", closed := false }, { id := 2, addr := "10.0.0.2:8091", closed := false }]]
      = [{ id := 2, addr := "10.0.0.2:8091", closed := false }] := by decide

/-- the loop before the repair handed out a closed session (finding C19-waiting-request-gets-closed-session) -/
theorem C19_before_fix_wait_closed :
    waitPickBeforeFix [[], [{ id := 7, addr := "a:1", closed := true }], [{ id := 8, addr := "a:1", closed := false }]]
      = some { id := 7, addr := "a:1", closed := true } := by decide

/-! Non-vacuity -/
example : allowed .xid (runOps {} [.open_ 1 "10.0.0.1:8091", .open_ 2 "10.0.0.2:8091", .close 1]) "10.0.0.2:8091:77"
    = [{ id := 2, addr := "10.0.0.2:8091", closed := false }] := by decide
example : allowed .roundRobin (runOps {} [.open_ 1 "b:1", .open_ 2 "a:1", .select .roundRobin "", .select .roundRobin ""]) ""
    = [{ id := 2, addr := "a:1", closed := false }] := by decide

end Seata.Props.C19
