/-
  C02 — AT phase one is atomic and ordered against the coordinator.

  `run clean f lost` is the trace (database statements of the business connection interleaved with
  coordinator messages) of one local transaction under fault `f` with `lost` lost status reports,
  computed from its fault-free trace `clean`; `exec` is the database connection's view of a trace.
  The correspondence check feeds the real fault-free trace to `run` and compares the real faulted
  trace, durability, error and connection state with it; `wfb` is evaluated on every real
  fault-free trace, so the hypothesis `WF clean` of the theorems is checked per run.
-/
import SeataModel.Lemmas.Atomic
import SeataModel.AT.Conn
namespace Seata.Props.C02
open Seata.AT.Atomic

/-- the explicit fault-free run -/
theorem C02_clean_run (body : List Ev) (hb : ∀ e ∈ body, bodyEv e = true) (lost : Nat) (f : Fault)
    (hf : ∀ k, f = .db k → k = 0 ∨ body.length + 4 ≤ k) (hr : f ≠ .regRefused ∧ f ≠ .regTransport) :
    run (.begin :: body ++ [.register, .undo, .commit]) f lost =
      { trace := .begin :: body ++ [.register, .undo, .commit] ++ reports true lost, error := false } := by
  have hc := cut_tx_miss (wf_dbs hb).1 (wf_dbs hb).2 f
    (fun k hk => by have := hf k hk; simp only [List.length_cons, List.length_nil]; omega) hr
  simp only [List.cons_append] at hc ⊢
  simp [run, hc]

/-- **Failure**: when a fault is reached (registration refused or lost, or any database statement of
    the transaction failing), nothing is committed, nothing is durable, the caller gets an error, the
    connection ends outside any transaction, and a registered branch — and only a registered branch —
    is reported PhaseoneFailed, with 1 to 5 attempts, the last one delivered unless all five are lost. -/
theorem C02_failure (clean : List Ev) (hwf : WF clean) (f : Fault) (lost : Nat)
    (hreached : (cut clean f 0 false).2.2 = true) :
    let o := run clean f lost
    o.error = true ∧ Ev.commit ∉ o.trace ∧
    (exec o.trace).durBiz = 0 ∧ (exec o.trace).durUndo = 0 ∧ (exec o.trace).inTx = false ∧
    (Ev.register ∈ o.trace → ∃ p, o.trace = p ++ reports false lost ∧ ∀ e ∈ p, isReport e = false) ∧
    (Ev.register ∉ o.trace → ∀ e ∈ o.trace, isReport e = false) := by
  obtain ⟨body, hb, -, rfl⟩ := hwf
  rw [wf_shape] at hreached ⊢
  -- `p`: the run without its reports
  obtain ⟨p, hc, hrep, hex, hrun⟩ := run_reached (wf_mid hb) f lost hreached
  have hrs := reports_isReport false lost
  simp only [hrun]
  by_cases hreg : Ev.register ∈ p
  · rw [if_pos hreg]
    have hex' : exec (p ++ reports false lost) = {} := by
      rw [exec, execFrom_append, execFrom_reports _ _ hrs]; exact hex
    refine ⟨trivial, ?_, by rw [hex'], by rw [hex'], by rw [hex'], fun _ => ⟨p, rfl, hrep⟩,
      fun h => absurd (List.mem_append_left _ hreg) h⟩
    intro h
    rcases List.mem_append.mp h with h | h
    · exact hc h
    · exact absurd (hrs _ h) (by simp [isReport])
  · rw [if_neg hreg, List.append_nil]
    exact ⟨trivial, hc, by rw [hex], by rw [hex], by rw [hex], fun h => absurd h hreg, fun _ => hrep⟩

/-- **Success**: when no fault is reached the whole transaction commits: every business statement
    and exactly one undo-log row are durable, no error, the connection is outside any transaction,
    and PhaseoneDone is reported. -/
theorem C02_success (clean : List Ev) (hwf : WF clean) (f : Fault) (lost : Nat)
    (hnot : (cut clean f 0 false).2.2 = false) :
    let o := run clean f lost
    o.error = false ∧ o.trace = clean ++ reports true lost ∧
    (exec o.trace).durBiz = clean.count .biz ∧ 0 < (exec o.trace).durBiz ∧
    (exec o.trace).durUndo = 1 ∧ (exec o.trace).inTx = false := by
  obtain ⟨body, hb, hbiz, rfl⟩ := hwf
  have hmid := wf_mid hb
  have hexec := exec_tx (body ++ [.register, .undo]) (reports true lost) .commit
    (fun h => (hmid _ h).1 rfl) (fun h => (hmid _ h).2.1 rfl) (reports_isReport true lost)
  have hundo : body.count .undo = 0 := List.count_eq_zero.mpr (not_mem_body hb rfl)
  rw [wf_shape] at hnot ⊢
  simp only [run_not_reached hmid f lost hnot]
  simp [List.count_append, hundo, Db.step] at hexec ⊢
  simp [hexec, List.count_pos_iff.mpr hbiz]

/-- **Atomicity**: whatever the fault and however many reports are lost, the business writes and the
    undo-log record are durable together (all of them) or not at all, and the connection is never
    handed back inside a transaction. -/
theorem C02_atomic (clean : List Ev) (hwf : WF clean) (f : Fault) (lost : Nat) :
    let d := exec (run clean f lost).trace
    ((d.durBiz = 0 ∧ d.durUndo = 0 ∧ (run clean f lost).error = true) ∨
     (d.durBiz = clean.count .biz ∧ 0 < d.durBiz ∧ d.durUndo = 1 ∧ (run clean f lost).error = false)) ∧
    d.inTx = false := by
  cases h : (cut clean f 0 false).2.2 with
  | true =>
    obtain ⟨a, -, c, d, e, -⟩ := C02_failure clean hwf f lost h
    exact ⟨Or.inl ⟨c, d, a⟩, e⟩
  | false =>
    obtain ⟨a, -, c, d, e, g⟩ := C02_success clean hwf f lost h
    exact ⟨Or.inr ⟨c, d, e, a⟩, g⟩

/-- **Order**: a COMMIT in the trace is preceded, inside the same local transaction (after the only
    BEGIN), by the successful registration and then the undo-log insert, in that order, with nothing
    but image queries and business statements before them. -/
theorem C02_order (clean : List Ev) (hwf : WF clean) (f : Fault) (lost : Nat) (p q : List Ev)
    (h : (run clean f lost).trace = p ++ .commit :: q) :
    ∃ body, (∀ e ∈ body, bodyEv e = true) ∧ p = .begin :: body ++ [.register, .undo] := by
  cases hr : (cut clean f 0 false).2.2 with
  | true =>
    obtain ⟨-, nc, -⟩ := C02_failure clean hwf f lost hr
    exfalso; apply nc; rw [h]; simp
  | false =>
    obtain ⟨-, ht, -⟩ := C02_success clean hwf f lost hr
    obtain ⟨body, hb, -, rfl⟩ := hwf
    refine ⟨body, hb, ?_⟩
    rw [ht] at h
    have h' : p ++ Ev.commit :: q = (Ev.begin :: body ++ [.register, .undo]) ++ Ev.commit :: reports true lost := by
      rw [← h]; simp
    -- COMMIT occurs once in this trace: not before the registration, not among the reports
    refine split_unique Ev.commit p q _ _ ?_ ?_ h'
    · intro hm
      simp at hm
      exact absurd (hb _ hm) (by simp [bodyEv])
    · intro hm
      have := reports_isReport true lost _ hm
      simp [isReport] at this

/-! ### every failure kind the property names is a reached fault (non-vacuity of `C02_failure`) -/

theorem C02_reached_begin (body : List Ev) :
    (cut (.begin :: body ++ [.register, .undo, .commit]) (.db 1) 0 false) = ([.failed .begin], false, true) := by
  simp [cut, isReport, hits, isDb]

theorem C02_reached_body (body : List Ev) (hb : ∀ e ∈ body, bodyEv e = true) (i : Nat) (hi : i < body.length) :
    (cut (.begin :: body ++ [.register, .undo, .commit]) (.db (i + 2)) 0 false) =
      (.begin :: body.take i ++ [.failed body[i]], false, true) :=
  cut_dbs_hit (.begin :: body) _ 0 false (i + 1) (wf_dbs hb).1 (by simpa using hi)

theorem C02_reached_register (body : List Ev) (hb : ∀ e ∈ body, bodyEv e = true) (f : Fault)
    (hf : f = .regRefused ∨ f = .regTransport) :
    (cut (.begin :: body ++ [.register, .undo, .commit]) f 0 false) =
      (.begin :: body ++ [.failed .register], false, true) :=
  cut_tx_register (wf_dbs hb).1 f hf

theorem C02_reached_undo (body : List Ev) (hb : ∀ e ∈ body, bodyEv e = true) :
    (cut (.begin :: body ++ [.register, .undo, .commit]) (.db (body.length + 2)) 0 false) =
      (.begin :: body ++ [.register, .failed .undo], true, true) := by
  simpa using cut_tx_after (wf_dbs hb).1 (wf_dbs hb).2 0 (by decide)

theorem C02_reached_commit (body : List Ev) (hb : ∀ e ∈ body, bodyEv e = true) :
    (cut (.begin :: body ++ [.register, .undo, .commit]) (.db (body.length + 3)) 0 false) =
      (.begin :: body ++ [.register, .undo, .failed .commit], true, true) := by
  simpa using cut_tx_after (wf_dbs hb).1 (wf_dbs hb).2 1 (by decide)

/-! ### non-vacuity: a concrete well-formed trace and its runs -/

def sample : List Ev := [.begin, .sel, .biz, .sel, .register, .undo, .commit]

example : WF sample := wfb_sound (by decide)
example : (run sample .none 0).trace = sample ++ [.report true true] := by decide
example : (run sample (.db 5) 2).trace =
    [.begin, .sel, .biz, .sel, .register, .failed .undo, .rollback, .report false false, .report false false, .report false true] := by
  decide
example : (run sample .regRefused 0).trace = [.begin, .sel, .biz, .sel, .failed .register, .rollback] := by decide
example : (exec (run sample (.db 6) 0).trace).durBiz = 0 ∧ (exec (run sample .none 5).trace).durBiz = 1 := by decide

/-! ### a connection over any sequence of statements and local transactions -/

section Conn
open Seata.AT.Conn

/-- a statement in auto-commit mode is ⟨true, true, true⟩ or does not belong; otherwise it runs in whatever is open,
    which `CInv` says is a local transaction, and is recorded iff it belongs -/
theorem conn_step_ok (s : St) (op : Op) (h : CInv s) :
    CInv (cstep s op).1 ∧ ∀ x ∈ (cstep s op).2, x.belongs = true → x.inTx = true ∧ x.recorded = true := by
  obtain ⟨ac, o, u⟩ := s
  cases op with
  | stmt g bf =>
    cases ac
    · exact ⟨h, List.forall_mem_singleton.mpr fun hb => ⟨h rfl, hb⟩⟩
    · cases g
      · exact ⟨h, List.forall_mem_singleton.mpr Bool.noConfusion⟩
      · cases bf
        · exact ⟨h, List.forall_mem_singleton.mpr fun _ => ⟨rfl, rfl⟩⟩
        · exact ⟨h, List.forall_mem_nil _⟩
  | begin g f =>
    cases ac
    · exact ⟨h, List.forall_mem_nil _⟩
    · cases f
      · exact ⟨fun _ => rfl, List.forall_mem_nil _⟩
      · exact ⟨h, List.forall_mem_nil _⟩
  | end_ => exact ⟨Bool.noConfusion, List.forall_mem_nil _⟩

/-- **every statement of a global transaction is a recorded statement of a local transaction**: whatever the
    application does on the connection — statements with or without the global context, local transactions begun
    with or without it, a BEGIN the driver refuses — a statement that belongs to a global transaction (its own
    context says so, or the local transaction it runs in was begun under one) reaches the database inside a local
    transaction and is recorded with it -/
theorem C02_statements_of_a_global_transaction_are_recorded (ops : List Op) (s : St) (h : CInv s) :
    CInv (crun cstep s ops).1 ∧
    ∀ x ∈ (crun cstep s ops).2, x.belongs = true → x.inTx = true ∧ x.recorded = true := by
  induction ops generalizing s with
  | nil => exact ⟨h, List.forall_mem_nil _⟩
  | cons op rest ih =>
    have hs := conn_step_ok s op h
    exact ⟨(ih _ hs.1).1, List.forall_mem_append.mpr ⟨hs.2, (ih _ hs.1).2⟩⟩

theorem C02_fresh_connection : CInv {} := by simp [CInv]

/-- before the repairs: after a refused BEGIN the next statement ran bare; a statement issued with another
    context inside a local transaction begun under the global one went unrecorded -/
theorem C02_before_fix_connection :
    (crun cstepBeforeFix {} [.stmt true true, .stmt true false]).2 = [⟨true, false, true⟩] ∧
    (crun cstepBeforeFix {} [.begin true true, .stmt true false]).2 = [⟨true, false, true⟩] ∧
    (crun cstepBeforeFix {} [.begin true false, .stmt false false, .end_]).2 = [⟨true, true, false⟩] := by decide

example : (crun cstep {} [.begin true false, .stmt false false, .end_, .stmt true true, .stmt true false]).2
    = [⟨true, true, true⟩, ⟨true, true, true⟩] := by decide

end Conn

end Seata.Props.C02
