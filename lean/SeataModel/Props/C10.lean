/-
  C10 — branch rollback is idempotent and blocks a late phase one.

  `rollbackBranch` is one delivery of BranchRollback (AT/World.lean); `rollbackBranchFaulted` a
  delivery during which a database statement fails (the harness injects a failure at EVERY statement
  index of the real rollback transaction and checks that the real code behaves like it: nothing
  changes, not answered "rollbacked").
-/
import SeataModel.Lemmas.Validate
namespace Seata.Props.C10
open Seata.DB Seata.AT

/-- a branch whose undo fails leaves the table exactly as it was (one local transaction) -/
theorem C10_failed_attempt_changes_nothing (sc : Schema) (cfg : Cfg) (t : Table) (b : Branch)
    (h : (undoBranch sc cfg t b).2 = false) : (undoBranch sc cfg t b).1 = t := by
  unfold undoBranch at *
  generalize undoFold sc cfg t b.items.reverse = r at h ⊢
  cases hr : r.2 <;> simp [hr] at h ⊢

/-- a delivery that is not answered "rollbacked" leaves the whole world (table, undo logs, markers)
    as it was: no partial compensation -/
theorem C10_failed_delivery_changes_nothing (sc : Schema) (cfg : Cfg) (w : World) (i : Nat)
    (h : (rollbackBranch sc cfg w i).2 = false) : (rollbackBranch sc cfg w i).1 = w := by
  rcases rollbackBranch_outcome sc cfg w i with hr | ⟨_, _, _, _, _, hr⟩ <;> rw [hr] at h ⊢
  cases h

/-- a faulted delivery followed by a clean one is the clean one -/
theorem C10_retry_after_fault (sc : Schema) (cfg : Cfg) (w : World) (i : Nat) :
    rollbackBranch sc cfg (rollbackBranchFaulted w).1 i = rollbackBranch sc cfg w i ∧
    (rollbackBranchFaulted w).2 = false := ⟨rfl, rfl⟩

/-- the invariant of repeated deliveries: branch `i` is there and has no undo log -/
def NoLog (w : World) (i : Nat) : Prop := ∃ bs, w.branches[i]? = some bs ∧ bs.hasLog = false

theorem noLog_of_rolledBack (sc : Schema) (cfg : Cfg) (w : World) (i : Nat)
    (h : (rollbackBranch sc cfg w i).2 = true) : NoLog (rollbackBranch sc cfg w i).1 i := by
  rcases rollbackBranch_outcome sc cfg w i with hr | ⟨bs, bs', _, hb, hl, hr⟩ <;> rw [hr] at h ⊢
  · cases h
  · exact ⟨bs', by simp [(List.getElem?_eq_some_iff.1 hb).1], hl⟩

theorem NoLog.rollbackBranch (sc : Schema) (cfg : Cfg) {w : World} {i : Nat} (h : NoLog w i) :
    (rollbackBranch sc cfg w i).2 = true ∧ (rollbackBranch sc cfg w i).1.t = w.t ∧
    (rollbackBranch sc cfg w i).1.branches.map (·.hasLog) = w.branches.map (·.hasLog) ∧
    NoLog (rollbackBranch sc cfg w i).1 i := by
  obtain ⟨bs, hb, hl⟩ := h
  obtain ⟨hlen, hget⟩ := List.getElem?_eq_some_iff.1 hb
  rw [rollbackBranch_noLog hb hl]
  refine ⟨rfl, rfl, List.ext_getElem? fun j => ?_, { bs with marker := true }, by simp [hlen], hl⟩
  by_cases hij : i = j
  · subst hij; simp [hlen, hget, hl]
  · simp [hij]

/-- **C10 (idempotence)**: once a delivery has been answered "rollbacked", every further delivery for
    that branch is answered "rollbacked" again and changes neither the table nor any undo log. -/
theorem C10_idempotent (sc : Schema) (cfg : Cfg) (w : World) (i : Nat)
    (h : (rollbackBranch sc cfg w i).2 = true) :
    let w1 := (rollbackBranch sc cfg w i).1
    (rollbackBranch sc cfg w1 i).2 = true ∧
    (rollbackBranch sc cfg w1 i).1.t = w1.t ∧
    (rollbackBranch sc cfg w1 i).1.branches.map (·.hasLog) = w1.branches.map (·.hasLog) :=
  have ⟨h1, h2, h3, _⟩ := (noLog_of_rolledBack sc cfg w i h).rollbackBranch sc cfg
  ⟨h1, h2, h3⟩

/-- any number of repeated deliveries after the first successful one -/
theorem C10_repeated (sc : Schema) (cfg : Cfg) (w : World) (i : Nat) (n : Nat)
    (h : (rollbackBranch sc cfg w i).2 = true) :
    let again := fun (w : World) => (rollbackBranch sc cfg w i).1
    (rollbackBranch sc cfg (Nat.repeat again n (rollbackBranch sc cfg w i).1) i).2 = true ∧
    (Nat.repeat again n (rollbackBranch sc cfg w i).1).t = (rollbackBranch sc cfg w i).1.t := by
  intro again
  have key : NoLog (Nat.repeat again n (rollbackBranch sc cfg w i).1) i ∧
      (Nat.repeat again n (rollbackBranch sc cfg w i).1).t = (rollbackBranch sc cfg w i).1.t := by
    induction n with
    | zero => exact ⟨noLog_of_rolledBack sc cfg w i h, rfl⟩
    | succ k ih =>
      have ⟨_, h2, _, h4⟩ := ih.1.rollbackBranch sc cfg
      exact ⟨h4, h2.trans ih.2⟩
  exact ⟨(key.1.rollbackBranch sc cfg).1, key.2⟩

/-- **C10 (late phase one)**: a rollback that arrives between a branch's registration and its undo-log
    flush leaves a marker; the late local transaction then commits nothing — the table is as before —
    unless it had nothing to log at all, and a further rollback of that branch is answered
    "rollbacked" without touching the table. -/
theorem C10_marker_blocks_late_commit (sc : Schema) (cfg : Cfg) (w : World) (ltx : LocalTx)
    (w' : World) (committed : Bool)
    (h : earlyRollbackThenCommit sc cfg w ltx = some (w', committed)) :
    w'.t = w.t ∧
    (∃ bs, w'.branches = w.branches ++ [bs] ∧ bs.marker = true ∧ bs.hasLog = false) ∧
    (committed = true → ∃ t' b, localPhase1 sc cfg w.t ltx = .ok (t', b) ∧ b.items = []) ∧
    (rollbackBranch sc cfg w' w.branches.length).2 = true ∧
    (rollbackBranch sc cfg w' w.branches.length).1.t = w.t := by
  unfold earlyRollbackThenCommit at h
  split at h
  · cases h
  · rename_i t1 b hp
    simp only [Option.some.injEq, Prod.mk.injEq] at h
    obtain ⟨hw, hc⟩ := h
    subst hw
    refine ⟨rfl, ⟨_, rfl, rfl, rfl⟩, ?_, ?_, ?_⟩
    · intro hcm
      refine ⟨t1, b, hp, ?_⟩
      rw [← hc] at hcm
      simpa using hcm
    · simp [rollbackBranch]
    · simp [rollbackBranch]

/-! ### non-vacuity -/

def sc1 : Schema := { ncols := 2, pk := [0] }
def w0 : World := { t := [[.int 1, .int 10]] }
def ltx1 : LocalTx := [(.update [(1, .val (.lit (.int 11)))] .tt, [])]

example : ∃ w1, runLocalTx sc1 ⟨true, false⟩ w0 ltx1 = some w1 ∧
    (rollbackBranch sc1 ⟨true, false⟩ w1 0).2 = true ∧ (rollbackBranch sc1 ⟨true, false⟩ w1 0).1.t = w0.t := by
  refine ⟨_, rfl, ?_, ?_⟩ <;> decide
example : ∃ w', earlyRollbackThenCommit sc1 ⟨true, false⟩ w0 ltx1 = some (w', false) := ⟨_, rfl⟩

end Seata.Props.C10
