/-
  C08 — undo-log encoding is lossless under every serializer and compressor setting.
-/
import SeataModel.UndoLog.Lz4Buf
import SeataModel.Lemmas.UndoLog
namespace Seata.Props.C08
open Seata.UndoLog

/-- Lossless (partial): for every branch undo log — any number of statements, images, rows and
    columns — whose column values all lie in the explicit `supported` cell table, and both
    serializers: decoding what was encoded succeeds (no error, no panic) and restores the same tree
    with the same names, key flags, type codes and values up to the undo executors' equality.
    What `supported` leaves out is said at its definition (a value in a column of a foreign type, an
    integer beyond 2^53 in a FLOAT/DOUBLE column). -/
theorem C08_lossless_partial (ser : Serializer) (l : Log)
    (h : ∀ c ∈ colsOfLog l, supported ser c.jdbc c.val = true) :
    ∃ l', rtLog ser l = .ok l' ∧ eqLog l' l = true := by
  obtain ⟨ls', h1, h2⟩ := mapE_ok (rtSqlLog ser) eqSqlLog l.logs fun s hs => by
    obtain ⟨b', hb1, hb2⟩ := rtOpt_ok ser s.before fun c hc =>
      h c (List.mem_flatMap.mpr ⟨s, hs, List.mem_append_left _ hc⟩)
    obtain ⟨a', ha1, ha2⟩ := rtOpt_ok ser s.after fun c hc =>
      h c (List.mem_flatMap.mpr ⟨s, hs, List.mem_append_right _ hc⟩)
    exact ⟨{ s with before := b', after := a' }, by simp [rtSqlLog, hb1, ha1], by simp [eqSqlLog, hb2, ha2]⟩
  exact ⟨{ l with logs := ls' }, by simp [rtLog, h1], by simp [eqLog, h2]⟩

/-- per value: a supported cell decodes to an equal value -/
theorem C08_value_lossless (ser : Serializer) (jdbc : Int) (v : GoVal) (h : supported ser jdbc v = true) :
    ∃ v', roundtripVal ser jdbc v = .ok v' ∧ undoEq v' v = true :=
  rt_supported ser jdbc v h

/-- the context stored beside the log is read back exactly (keys/values free of `&` = `38` and `=` = `61`,
    the two separators of the context text) -/
theorem C08_ctx_sufficient (m : List (Bytes × Bytes))
    (h : ∀ kv ∈ m, (38:UInt8) ∉ kv.1 ∧ (61:UInt8) ∉ kv.1 ∧ (38:UInt8) ∉ kv.2 ∧ (61:UInt8) ∉ kv.2) :
    decodeCtx (encodeCtx m) = m := by
  by_cases hm : m = []
  · subst hm; rfl
  unfold decodeCtx encodeCtx
  rw [joinWith_eq, splitOn_eq, Split.splitOn_joinWith 38 _ (by simpa using hm), List.filterMap_map]
  · -- each pair is read back as itself
    refine filterMap_eq_self fun ⟨k, v⟩ hkv => ?_
    obtain ⟨-, hk, -, hv⟩ := h _ hkv
    simp [splitOn_eq, Split.splitOn_append_sep 61 k v hk, Split.splitOn_of_not_mem 61 v hv]
  · intro p hp
    obtain ⟨⟨k, v⟩, hkv, rfl⟩ := List.mem_map.mp hp
    have := h _ hkv
    simp [this.1, this.2.2.1]

/-- Pipeline: for EVERY lawful compressor and text codec that the recorded names resolve to, what
    rollback loads from the (context, rollback_info) pair phase one flushed is the value-level round
    trip of the log — the context is sufficient to pick decompressor and parser, and compression is
    transparent. -/
theorem C08_pipeline (ser : Serializer) (serName compName : Bytes) (tc : TextCodec) (comp : Compressor)
    (lookupComp : Bytes → Compressor) (lookupCodec : Bytes → Option TextCodec) (l : Log)
    (hs : (38:UInt8) ∉ serName ∧ (61:UInt8) ∉ serName) (hc : (38:UInt8) ∉ compName ∧ (61:UInt8) ∉ compName)
    (h1 : lookupComp compName = comp) (h2 : lookupCodec serName = some tc) :
    load ser lookupComp lookupCodec (flush serName compName tc comp l) = rtLog ser l := by
  unfold load flush
  simp only
  rw [C08_ctx_sufficient _ (by simp [hs, hc])]
  simp [h1, h2, comp.lawful, tc.lawful]

/-- …hence, on supported logs, rollback reads exactly what phase one wrote -/
theorem C08_pipeline_lossless (ser : Serializer) (serName compName : Bytes) (tc : TextCodec) (comp : Compressor)
    (lookupComp : Bytes → Compressor) (lookupCodec : Bytes → Option TextCodec) (l : Log)
    (hs : (38:UInt8) ∉ serName ∧ (61:UInt8) ∉ serName) (hc : (38:UInt8) ∉ compName ∧ (61:UInt8) ∉ compName)
    (h1 : lookupComp compName = comp) (h2 : lookupCodec serName = some tc)
    (h : ∀ c ∈ colsOfLog l, supported ser c.jdbc c.val = true) :
    ∃ l', load ser lookupComp lookupCodec (flush serName compName tc comp l) = .ok l' ∧ eqLog l' l = true := by
  rw [C08_pipeline ser serName compName tc comp lookupComp lookupCodec l hs hc h1 h2]
  exact C08_lossless_partial ser l h

/-! What the repairs in /repo changed (formerly the open findings C08-varchar-base64, C08-rawbytes,
    C08-protobuf-time, C08-bigint-beyond-2p53), machine-checked on both sides. -/

/-- a text of a character column always comes back as itself under the JSON serializer, whether or not it
    happens to be valid base64 -/
theorem C08_char_text_lossless (jdbc : Int) (hc : classOf jdbc = .char) (s : Bytes) :
    roundtripVal .json jdbc (.str s) = .ok (.str s) :=
  rt_str_char .json jdbc hc s

/-- before: the VARCHAR value "test" is valid base64 and came back as the bytes b5 eb 2d -/
theorem C08_before_fix_varchar_base64 :
    roundtripValBeforeFix .json jVarchar (.str [116, 101, 115, 116]) = .ok (.str [0xb5, 0xeb, 0x2d]) ∧
    roundtripVal .json jVarchar (.str [116, 101, 115, 116]) = .ok (.str [116, 101, 115, 116]) :=
  ⟨by decide, C08_char_text_lossless jVarchar (by decide) _⟩

/-- a byte slice of a binary column (BLOB, BINARY, VARBINARY, BIT) comes back as the same bytes, under both
    serializers -/
theorem C08_binary_lossless (ser : Serializer) (jdbc : Int) (hc : classOf jdbc = .bin) (b : Bytes) :
    roundtripVal ser jdbc (.bytes b) = .ok (.bytes b) :=
  rt_bytes_bin ser jdbc hc b

/-- before: it came back as the base64 TEXT of its bytes, never as the same []byte -/
theorem C08_before_fix_rawbytes (ser : Serializer) (jdbc : Int) (b : Bytes) :
    ∀ v', roundtripValBeforeFix ser jdbc (.bytes b) = .ok v' → (match v' with | .bytes _ => false | _ => true) = true := by
  intro v' hv
  cases ser
  · simp only [roundtripValBeforeFix, marshalVal, unmarshalJsonBeforeFix] at hv
    -- no branch of the old decoder builds a `.bytes`
    cases hc : classOfBeforeFix jdbc <;> rw [hc] at hv <;> simp only [unmarshalCBeforeFix] at hv <;>
      (try split at hv) <;> cases hv <;> rfl
  · simp only [roundtripValBeforeFix, marshalVal, unmarshalPbBeforeFix] at hv
    cases hv; rfl

/-- a point in time of a time column comes back as that point in time under the protobuf serializer too -/
theorem C08_protobuf_time_lossless (jdbc : Int) (hc : classOf jdbc = .time) (ns : Int)
    (h1 : -9223372036854775808 ≤ ns) (h2 : ns < 9223372036854775808) :
    roundtripVal .protobuf jdbc (.time ns) = .ok (.time ns) :=
  rt_time .protobuf jdbc hc ns h1 h2

/-- before: it came back as a string -/
theorem C08_before_fix_protobuf_time (jdbc ns : Int) :
    ∃ s, roundtripValBeforeFix .protobuf jdbc (.time ns) = .ok (.str s) := ⟨_, rfl⟩

/-- every 64-bit integer of a BIGINT column comes back exactly, under both serializers (the documents are read
    with json.Number) -/
theorem C08_bigint_lossless (ser : Serializer) (i : Int) (h : intKept 64 i = true) :
    roundtripVal ser jBigInt (.int i) = .ok (.int i) :=
  rt_int ser jBigInt (by decide) i h

/-- an UNSIGNED column's value above the signed range of its width (TINYINT UNSIGNED 200, INT UNSIGNED 3·10⁹,
    BIGINT UNSIGNED 2⁶⁴−1) comes back as the number it is -/
theorem C08_unsigned_lossless (ser : Serializer) (jdbc : Int) (bits : Nat) (i : Int)
    (hc : classOf jdbc = .intN bits) (h0 : 0 ≤ i) (h1 : i < 2 ^ (if bits = 64 then 64 else 63)) :
    roundtripVal ser jdbc (.int i) = .ok (.int i) := by
  refine rt_int ser jdbc hc i ?_
  unfold intKept
  -- both bounds turn on whether the column is 64 bits wide
  split at h1 <;> simp [*] <;> omega

/-- before: TINYINT UNSIGNED 200 came back as another number (the code wrapped it to int8(-56); the model of that
    code refused it) -/
theorem C08_before_fix_unsigned : roundtripValBeforeFix .json jTinyInt (.int 200) ≠ .ok (.int 200) := by decide

/-- before: beyond 2^53 the value was refused by the model (the code rounded it through float64) -/
theorem C08_before_fix_bigint : roundtripValBeforeFix .json jBigInt (.int 9007199254740993) = .error .error := by decide

/-- a type code without a rule of its own (JDBC FLOAT 6, NUMERIC 2, BOOLEAN 16) keeps the value; before, it was dropped -/
theorem C08_unhandled_type_keeps_value :
    roundtripVal .json 6 (.float 7 true) = .ok (.float 7 true) ∧ roundtripValBeforeFix .json 6 (.float 7 true) = .ok .nil := by decide

/-! Counter-examples against the shape at c3b0bd5. -/

/-- REAL (MySQL FLOAT): `value.(float32)` on a JSON number panicked -/
def unmarshalRealAsCoded_c3b0bd5 : JVal → Except DecErr GoVal
  | .null => .ok .nil
  | _ => .error .panic
theorem C08_asCoded_real_panics : unmarshalRealAsCoded_c3b0bd5 (marshalVal (.float 1 true)) = .error .panic := rfl

/-- the compress type was recorded but the data stored uncompressed: a compressor that frames its
    output cannot read it back -/
def framing : Compressor :=
  { compress := fun b => 1 :: b,
    decompress := fun b => match b with | 1 :: r => some r | _ => none,
    lawful := fun _ => rfl }
theorem C08_asCoded_uncompressed_unreadable : framing.decompress [123, 125] = none := rfl

/-! Non-vacuity: a log whose image holds a NULL, a boundary integer, a float, a time and strings that look
    like a number / JSON / almost-base64 is within `supported`. -/
def sampleLog : Log :=
  { xid := [49], branch := 7, logs :=
    [{ sqlType := 2, table := [116],
       before := some { table := [116], sqlType := 2, rows :=
         [[{ key := true, name := [105, 100], jdbc := jBigInt, val := .int 9007199254740992 },
           { key := false, name := [110], jdbc := jVarchar, val := .str [49, 50, 51] },
           { key := false, name := [106], jdbc := jVarchar, val := .str [123, 125] },
           { key := false, name := [120], jdbc := jInteger, val := .nil },
           { key := false, name := [116], jdbc := jTimestamp, val := .time 1700000000123456789 },
           { key := false, name := [102], jdbc := jDouble, val := .float 42 false }]] },
       after := none }] }

example : ∀ c ∈ colsOfLog sampleLog, supported .json c.jdbc c.val = true := by decide
example : rtLog .json sampleLog = .ok sampleLog := by decide +kernel

/-! ### the lz4 reader's buffer (UndoLog/Lz4Buf.lean) -/

/-- doubling reaches any `need` the give-up bound allows: while the buffer is too short it is below `need`, hence
    below the bound, and the reader goes on -/
theorem lz4Try_suffices (n need : Nat) (h : need ≤ 255 * n + 64) :
    ∀ fuel size, need ≤ 2 ^ fuel * size → ∃ s, lz4Try n need (fuel + 1) size = some s ∧ need ≤ s
  | 0, size, hs => ⟨size, by simp [lz4Try]; omega, by omega⟩
  | fuel + 1, size, hs => by
    unfold lz4Try
    split
    · exact ⟨size, rfl, ‹_›⟩
    · rw [if_neg (by omega)]
      exact lz4Try_suffices n need h fuel (2 * size) (by rwa [Nat.pow_succ, Nat.mul_assoc] at hs)

/-- every block lz4 can produce is read back: whatever `need ≤ 255·n` bytes a block of `n` bytes holds, one of
    the buffers tried is large enough (so the undo log that could be written can be rolled back) -/
theorem C08_lz4_buffer_suffices (n need : Nat) (h : need ≤ 255 * n) :
    ∃ size, lz4Read n need = some size ∧ need ≤ size :=
  lz4Try_suffices n need (by omega) 3 _ (by omega)

/-- before the repair a block that shrank below a hundredth was lost (finding C08-lz4-ratio-beyond-hundred) -/
theorem C08_before_fix_lz4 : lz4ReadBeforeFix 1957 300000 = none ∧ (300000 : Nat) ≤ 255 * 1957 := by decide

end Seata.Props.C08
