/-
  C05 — TCC branches are registered before try and dispatched faithfully in phase two.
-/
import SeataModel.TCC.Action
namespace Seata.Props.C05
open Seata.TCC

/-- exactly one branch is registered (resource = action name, application data = the tagged
    parameters), before try; try runs iff registration succeeded -/
theorem C05_register_before_try (action : String) (fields : List Field) (reg : RegOutcome) :
    let (tr, ran) := prepare action fields reg
    tr.head? = some (.register action (captured fields)) ∧
    (tr.filter (fun e => match e with | .register _ _ => true | _ => false)).length = 1 ∧
    (ran = true ↔ ∃ b, reg = .ok b) ∧
    (Ev.tryRun ∈ tr ↔ ran = true) := by
  cases reg <;> simp [prepare]

theorem mem_captured_cons {p : String × String} {f : Field} {r : List Field} :
    p ∈ captured (f :: r) ↔ p ∈ captured r ∨
      (p = (f.tag, f.value) ∧ f.exported = true ∧ f.tag ≠ "" ∧ f.tag ≠ "-" ∧
        (captured r).any (fun q => q.1 == f.tag) = false) := by
  simp only [captured]
  split
  · next hc =>
    simp only [Bool.and_eq_true, bne_iff_ne, ne_eq] at hc
    split
    · next hany => simp [hany]
    · next hany => simp [hc, hany, or_comm]
  · next hc =>
    simp only [Bool.and_eq_true, bne_iff_ne, ne_eq] at hc
    exact ⟨.inl, fun h => h.resolve_right fun h' => hc ⟨⟨h'.2.1, h'.2.2.1⟩, h'.2.2.2.1⟩⟩

/-- only exported, tagged fields (tag ≠ "-") are captured, each under its tag -/
theorem C05_captured_sound (fields : List Field) :
    ∀ p ∈ captured fields, ∃ f ∈ fields, f.exported = true ∧ f.tag = p.1 ∧ f.tag ≠ "" ∧ f.tag ≠ "-" ∧ f.value = p.2 := by
  induction fields with
  | nil => simp [captured]
  | cons f r ih =>
    intro p hp
    rcases mem_captured_cons.1 hp with hp | ⟨rfl, h1, h2, h3, _⟩
    · obtain ⟨g, hg, h⟩ := ih p hp
      exact ⟨g, .tail _ hg, h⟩
    · exact ⟨f, .head _, h1, rfl, h2, h3, rfl⟩

/-- every exported tagged field's tag is present among the captured parameters -/
theorem C05_captured_complete (fields : List Field) (f : Field) (hf : f ∈ fields)
    (h : f.exported = true ∧ f.tag ≠ "" ∧ f.tag ≠ "-") :
    ∃ v, (f.tag, v) ∈ captured fields := by
  induction fields with
  | nil => cases hf
  | cons g r ih =>
    rcases List.mem_cons.1 hf with rfl | hfr
    · -- `f` itself, unless a later field has taken its tag
      cases hany : (captured r).any (fun q => q.1 == f.tag)
      · exact ⟨f.value, mem_captured_cons.2 (.inr ⟨rfl, h.1, h.2.1, h.2.2, hany⟩)⟩
      · obtain ⟨q, hq, hqt⟩ := List.any_eq_true.1 hany
        exact ⟨q.2, mem_captured_cons.2 (.inl (by rw [← eq_of_beq hqt]; exact hq))⟩
    · obtain ⟨v, hv⟩ := ih hfr
      exact ⟨v, mem_captured_cons.2 (.inl hv)⟩

theorem phaseTwo_eq (registered : List String) (r : Request) :
    phaseTwo registered r =
      if known registered r = true ∧ r.data ≠ .malformed then
        .invoke r.commit r.xid r.branchId (ctxOf r.data) ::
          (if r.user.done then [.respond r.msgId r.commit r.xid r.branchId true] else [])
      else [] := by
  unfold phaseTwo
  cases known registered r <;> cases r.data <;> cases r.user.done <;> rfl

/-- a phase-two request for a registered resource with well-formed application data invokes the
    matching method EXACTLY once, with the request's xid and branch id and the context carried in
    the application data -/
theorem C05_exactly_once (registered : List String) (r : Request) (m : List (String × String))
    (hr : known registered r = true) (hd : r.data = .ctx m) :
    (phaseTwo registered r).filter (fun e => match e with | .invoke _ _ _ _ => true | _ => false)
      = [.invoke r.commit r.xid r.branchId (some m)] := by
  rw [phaseTwo_eq, if_pos ⟨hr, by simp [hd]⟩, hd]
  cases r.user.done <;> rfl

theorem respond_mem_phaseTwo {registered : List String} {r : Request} {i : Nat} {c : Bool} {x : String} {b : Nat}
    {s : Bool} :
    Ev.respond i c x b s ∈ phaseTwo registered r ↔
      (known registered r = true ∧ r.data ≠ .malformed) ∧ r.user.done = true ∧
        i = r.msgId ∧ c = r.commit ∧ x = r.xid ∧ b = r.branchId ∧ s = true := by
  rw [phaseTwo_eq]
  split
  · next h => cases r.user.done <;> simp [h]
  · next h => simp [h]

/-- the reply says committed/rollbacked if and only if the user method returned no error — or returned the fence
    driver's "nothing to do" (the phase has been applied before: anything else would make the coordinator repeat
    the delivery for ever); a success status is never reported for a failed method, for an unknown resource or for
    unreadable data -/
theorem C05_status_iff (registered : List String) (r : Request) :
    (∃ e ∈ phaseTwo registered r, ∃ i c x b, e = Ev.respond i c x b true) ↔
    (known registered r = true ∧ r.data ≠ .malformed ∧ (r.user = .ok ∨ r.user = .alreadyApplied)) := by
  have hu : (r.user = .ok ∨ r.user = .alreadyApplied) ↔ r.user.done = true := by
    cases r.user <;> simp [UserOutcome.done]
  constructor
  · rintro ⟨e, he, i, c, x, b, rfl⟩
    have := respond_mem_phaseTwo.1 he
    exact ⟨this.1.1, this.1.2, hu.2 this.2.1⟩
  · rintro ⟨h1, h2, h3⟩
    exact ⟨_, respond_mem_phaseTwo.2 ⟨⟨h1, h2⟩, hu.1 h3, rfl, rfl, rfl, rfl, rfl⟩, _, _, _, _, rfl⟩

/-- an unknown resource, or unreadable application data, runs no user code at all -/
theorem C05_unknown_resource (registered : List String) (r : Request)
    (h : known registered r = false ∨ r.data = .malformed) : phaseTwo registered r = [] := by
  rw [phaseTwo_eq, if_neg]
  rcases h with h | h <;> simp [h]

/-- the reply is addressed with the request's message id, xid and branch id -/
theorem C05_reply_addressed (registered : List String) (r : Request) :
    ∀ e ∈ phaseTwo registered r, ∀ i c x b s, e = Ev.respond i c x b s →
      i = r.msgId ∧ c = r.commit ∧ x = r.xid ∧ b = r.branchId := by
  rintro e he i c x b s rfl
  have := (respond_mem_phaseTwo.1 he).2.2
  exact ⟨this.1, this.2.1, this.2.2.1, this.2.2.2.1⟩

/-- requests are handled one by one: repeated requests invoke the method once PER request -/
theorem C05_per_request (registered : List String) (a b : List Request) :
    phaseTwoAll registered (a ++ b) = phaseTwoAll registered a ++ phaseTwoAll registered b := by
  simp [phaseTwoAll]

/-! Non-vacuity -/
example : captured [{ exported := true, tag := "a", value := "1" }, { exported := false, tag := "b", value := "2" },
                    { exported := true, tag := "-", value := "3" }, { exported := true, tag := "", value := "4" },
                    { exported := true, tag := "c", value := "{\"x\":[1]}" }] = [("a", "1"), ("c", "{\"x\":[1]}")] := by decide

end Seata.Props.C05
