/-
  C16 — the proxy driver is transparent apart from its transactional duties.

  On the model: what AT phase one does to the table (`stmtPhase1`, `localPhase1`) is exactly what the
  plain driver does (`apply`, `Plain.applyAll`); the only statements it treats differently are
  UPDATEs and ON DUPLICATE KEY UPDATE clauses that name a key column, which it rejects (C18), and UPDATEs
  whose before and after image differ in length (the code's test for a changed key: on a table with unique keys
  it cannot fire once no key column is named).  On the code: the harness runs
  every generated program through the proxy and through the bare driver and compares results,
  statement journals and coordinator traffic; `Plain.prun` predicts both.
-/
import SeataModel.AT.Plain
namespace Seata.Props.C16
open Seata.DB Seata.AT Seata.AT.Plain

/-- phase one of a statement against the plain statement: it leaves the table the database leaves,
    or fails with the database's error, or is refused on the proxy's own account -/
theorem stmtPhase1_spec (sc : Schema) (cfg : Cfg) (t : Table) (args : Args) (s : Stmt) :
    ∀ r, stmtPhase1 sc cfg t args s = r →
    match r with
    | .ok (t', _, _) => ∃ n, apply sc t args s = .ok (t', n)
    | .error (.sql e) => apply sc t args s = .error e
    | .error .pkChanged =>
      (((∃ sets w, s = .update sets w) ∨ (∃ sets w ord lim, s = .updateLim sets w ord lim)) ∧
        ∃ r, apply sc t args s = .ok r) ∨
      (∃ rows asg, s = .upsert rows asg ∧ (asg.any fun a => sc.pk.contains a.1) = true) := by
  intro r hr
  cases s with
  | update sets w =>
    simp only [stmtPhase1, updatePhase1, apply] at hr
    split at hr
    · subst hr; exact .inl ⟨.inl ⟨_, _, rfl⟩, _, rfl⟩      -- names a key column
    · split at hr <;> subst hr
      · exact .inl ⟨.inl ⟨_, _, rfl⟩, _, rfl⟩              -- the images differ in length
      · exact ⟨_, rfl⟩
  | updateLim sets w ord lim =>
    simp only [stmtPhase1] at hr
    split at hr <;> subst hr
    · exact .inl ⟨.inr ⟨_, _, _, _, rfl⟩, _, rfl⟩
    · exact ⟨_, rfl⟩
  | delete w => subst hr; exact ⟨_, rfl⟩
  | deleteLim w ord lim => subst hr; exact ⟨_, rfl⟩
  | failing s => subst hr; rfl
  | insert rows =>
    simp only [stmtPhase1] at hr
    split at hr <;> subst hr
    · assumption
    · exact ⟨_, by assumption⟩
  | upsert rows asg =>
    simp only [stmtPhase1] at hr
    split at hr
    · subst hr; rename_i hk; exact .inr ⟨_, _, rfl, hk⟩
    · split at hr <;> subst hr
      · assumption
      · exact ⟨_, by assumption⟩

/-- a statement that goes through phase one has changed the table exactly as the plain driver does -/
theorem C16_stmt_transparent (sc : Schema) (cfg : Cfg) (t : Table) (args : Args) (s : Stmt)
    (t' : Table) (item : Item) (keys : List Key)
    (h : stmtPhase1 sc cfg t args s = .ok (t', item, keys)) :
    ∃ n, apply sc t args s = .ok (t', n) :=
  stmtPhase1_spec sc cfg t args s _ h

/-- a statement the database refuses is refused through the proxy too, nothing changed: with the same
    error, or (an upsert whose ON DUPLICATE KEY UPDATE clause names a key column) before it reaches the database -/
theorem C16_stmt_error (sc : Schema) (cfg : Cfg) (t : Table) (args : Args) (s : Stmt) (e : SqlErr)
    (h : apply sc t args s = .error e) :
    stmtPhase1 sc cfg t args s = .error (.sql e) ∨ stmtPhase1 sc cfg t args s = .error .pkChanged := by
  have := stmtPhase1_spec sc cfg t args s _ rfl
  generalize stmtPhase1 sc cfg t args s = r at this ⊢
  rcases r with (e' | _) | ⟨t', _, _⟩
  · rw [h] at this; cases this; exact .inl rfl
  · exact .inr rfl
  · obtain ⟨n, hn⟩ := this; rw [h] at hn; cases hn

/-- the only statements the proxy refuses on its own account: UPDATEs (plain or with ORDER BY / LIMIT)
    that name a key column or move a row to another key — the database would run them — and upserts
    whose ON DUPLICATE KEY UPDATE clause names a key column -/
theorem C16_only_key_changes_rejected (sc : Schema) (cfg : Cfg) (t : Table) (args : Args) (s : Stmt)
    (h : stmtPhase1 sc cfg t args s = .error .pkChanged) :
    (((∃ sets w, s = .update sets w) ∨ (∃ sets w ord lim, s = .updateLim sets w ord lim)) ∧
      ∃ r, apply sc t args s = .ok r) ∨
    (∃ rows asg, s = .upsert rows asg ∧ (asg.any fun a => sc.pk.contains a.1) = true) :=
  stmtPhase1_spec sc cfg t args s _ h

theorem localPhase1_spec (sc : Schema) (cfg : Cfg) : ∀ (ltx : LocalTx) (t : Table) r, localPhase1 sc cfg t ltx = r →
    match r with
    | .ok (t', _) => applyAll sc t ltx = .ok t'
    | .error (.sql e) => applyAll sc t ltx = .error e
    | .error .pkChanged => True := by
  intro ltx
  induction ltx with
  | nil => intro t r hr; subst hr; rfl
  | cons p rest ih =>
    intro t r hr
    obtain ⟨s, args⟩ := p
    have h1 := stmtPhase1_spec sc cfg t args s _ rfl
    simp only [localPhase1] at hr
    split at hr
    · rename_i e he
      subst hr
      rw [he] at h1
      cases e with
      | sql e => simp only [applyAll, h1]
      | pkChanged => trivial
    · rename_i t1 item keys he
      rw [he] at h1
      obtain ⟨n, hn⟩ := h1
      have h2 := ih t1 _ rfl
      simp only [applyAll, hn]
      split at hr <;> subst hr <;> rename_i h <;> rw [h] at h2 <;> exact h2

/-- a local transaction that goes through phase one leaves the table the plain driver leaves -/
theorem C16_local_transparent (sc : Schema) (cfg : Cfg) (t : Table) (ltx : LocalTx) (t' : Table) (b : Branch)
    (h : localPhase1 sc cfg t ltx = .ok (t', b)) : applyAll sc t ltx = .ok t' :=
  localPhase1_spec sc cfg ltx t _ h

/-- and it fails exactly where the plain driver fails, unless a key-changing UPDATE is met -/
theorem C16_local_error (sc : Schema) (cfg : Cfg) (t : Table) (ltx : LocalTx) (e : SqlErr)
    (h : applyAll sc t ltx = .error e) :
    localPhase1 sc cfg t ltx = .error (.sql e) ∨ localPhase1 sc cfg t ltx = .error .pkChanged := by
  have := localPhase1_spec sc cfg ltx t _ rfl
  generalize localPhase1 sc cfg t ltx = r at this ⊢
  rcases r with (e' | _) | ⟨t', _⟩
  · rw [h] at this; cases this; exact .inl rfl
  · exact .inr rfl
  · rw [h] at this; cases this

/-! ### non-vacuity -/

example : (prun { ncols := 2, pk := [0] } { t := [[.int 1, .int 5]] }
    [.begin, .exec (.update [(1, .val (.lit (.int 6)))] .tt) [], .exec (.insert [[.lit (.int 1), .lit (.int 0)]]) [], .rollback]).2 =
    [.done, .ok 1, .err, .done] := by decide

end Seata.Props.C16
