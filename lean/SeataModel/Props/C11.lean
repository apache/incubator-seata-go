/-
  C11 — phase-two commit deletes exactly the committed branch's undo log, eventually.
-/
import SeataModel.AT.AsyncCommit
namespace Seata.Props.C11
open Seata.AT.AsyncCommit

/-- invariant of every history: (1) a row no accepted request names is still there; (2) no accepted
    request is lost: it is still queued, or no row for it remains; (3) only accepted requests are queued;
    (4) no row appears that was not there at the start -/
def Inv (rows0 : List Row) (s : St) : Prop :=
  (∀ row ∈ rows0, row ∉ s.accepted → row ∈ s.rows) ∧
  (∀ q ∈ s.accepted, q ∈ s.queue ∨ q ∉ s.rows) ∧
  (∀ q ∈ s.queue, q ∈ s.accepted) ∧
  (∀ row ∈ s.rows, row ∈ rows0)

theorem inv_init (rows0 : List Row) : Inv rows0 { rows := rows0 } :=
  ⟨fun _ h _ => h, fun _ h => (List.not_mem_nil h).elim, fun _ h => (List.not_mem_nil h).elim, fun _ h => h⟩

theorem mem_filter_not_contains {α} [BEq α] [LawfulBEq α] {l d : List α} {a : α} :
    a ∈ l.filter (fun x => !d.contains x) ↔ a ∈ l ∧ a ∉ d := by simp

/-- what the worker does, one request at a time or a whole batch: the queued requests `done` leave the queue
    and their rows are deleted; the others stay queued, in whatever order -/
theorem Inv.process {rows0 : List Row} {s s' : St} (done : List Req) (h : Inv rows0 s)
    (hacc : s'.accepted = s.accepted)
    (hq : ∀ q, q ∈ s.queue ↔ q ∈ s'.queue ∨ q ∈ done)
    (hrows : ∀ row, row ∈ s'.rows ↔ row ∈ s.rows ∧ row ∉ done) : Inv rows0 s' := by
  obtain ⟨h1, h2, h3, h4⟩ := h
  rw [Inv, hacc]
  refine ⟨fun row hr hn => ?_, fun q ha => ?_, fun q hq' => h3 q ((hq q).2 (.inl hq')),
    fun row hr => h4 row ((hrows row).1 hr).1⟩
  · -- a row no accepted request names is not in `done`, which was queued, hence accepted
    exact (hrows row).2 ⟨h1 row hr hn, fun hd => hn (h3 row ((hq row).2 (.inr hd)))⟩
  · rcases h2 q ha with hqu | hnr
    · -- still queued, or in `done` and then its rows are gone
      exact ((hq q).1 hqu).imp id fun hd hr => ((hrows q).1 hr).2 hd
    · exact .inr fun hr => hnr ((hrows q).1 hr).1

theorem inv_step {rows0 : List Row} {s : St} (h : Inv rows0 s) (e : Ev) : Inv rows0 (step s e) := by
  obtain ⟨queue, rows, accepted⟩ := s
  match e, queue with
  | .accept r, _ =>
    obtain ⟨h1, h2, h3, h4⟩ := h
    refine ⟨fun row hr hn => h1 row hr fun ha => hn (List.mem_append_left _ ha), fun q hq => ?_, fun q hq => ?_, h4⟩
    · rcases List.mem_append.1 hq with ha | hr
      · exact (h2 q ha).imp (List.mem_append_left _) id
      · exact .inl (List.mem_append_right _ hr)
    · exact List.mem_append.2 ((List.mem_append.1 hq).imp (h3 q) id)
  | .batch noConn failed, queue =>
    refine h.process (queue.filter fun r => !(noConn.contains r.res || failed.contains r)) rfl (fun q => ?_)
      fun _ => mem_filter_not_contains
    simp only [step, List.mem_filter]
    cases noConn.contains q.res || failed.contains q <;> simp
  | .proc _, [] => exact h
  | .proc true, r :: rest => exact h.process [r] rfl (by simp [step, or_comm]) (by simp [step])
  | .proc false, r :: rest => exact h.process [] rfl (by simp [step, or_comm]) (by simp [step])

theorem inv_run {rows0 : List Row} {s : St} (h : Inv rows0 s) (es : List Ev) : Inv rows0 (run s es) := by
  induction es generalizing s with
  | nil => exact h
  | cons e rest ih => exact ih (inv_step h e)

/-- **C11 (safety)**: in every history of accepted requests, successful and failing deletes, no
    other branch's undo log is ever deleted and no accepted request is lost. -/
theorem C11_safety (rows0 : List Row) (es : List Ev) :
    let s := run { rows := rows0 } es
    (∀ row ∈ rows0, row ∉ s.accepted → row ∈ s.rows) ∧ (∀ q ∈ s.accepted, q ∈ s.queue ∨ q ∉ s.rows) :=
  have h := inv_run (inv_init rows0) es
  ⟨h.1, h.2.1⟩

theorem queue_length_proc (s : St) (ok : Bool) :
    (step s (.proc ok)).queue.length = if ok then s.queue.length - 1 else s.queue.length := by
  obtain ⟨_ | ⟨r, rest⟩, rows, accepted⟩ := s
  · cases ok <;> rfl
  · cases ok
    · exact List.length_append
    · rfl

theorem queue_length_procs (s : St) (oks : List Bool) :
    (run s (oks.map .proc)).queue.length = s.queue.length - oks.count true := by
  induction oks generalizing s with
  | nil => rfl
  | cons ok rest ih =>
    show (run (step s (.proc ok)) _).queue.length = _
    rw [ih, queue_length_proc]
    cases ok
    · rw [List.count_cons_of_ne (by decide)]; rfl
    · rw [List.count_cons_self, Nat.add_comm, ← Nat.sub_sub]; rfl

/-- **C11 (liveness, under eventual success)**: once no more requests arrive, as soon as the worker has
    had as many successful deletes as there are queued requests — however many transient failures in
    between — the queue is empty … -/
theorem C11_drains (s : St) (oks : List Bool) (h : s.queue.length ≤ oks.count true) :
    (run s (oks.map .proc)).queue = [] :=
  List.eq_nil_of_length_eq_zero ((queue_length_procs s oks).trans (Nat.sub_eq_zero_of_le h))

theorem Inv.exact {rows0 : List Row} {s : St} (h : Inv rows0 s) (hq : s.queue = []) (row : Row) :
    row ∈ s.rows ↔ row ∈ settle rows0 s.accepted := by
  obtain ⟨h1, h2, -, h4⟩ := h
  rw [settle, mem_filter_not_contains]
  refine ⟨fun hm => ⟨h4 row hm, fun ha => (h2 row ha).elim (fun hqu => ?_) (· hm)⟩, fun ⟨hm, hn⟩ => h1 row hm hn⟩
  rw [hq] at hqu
  cases hqu

/-- … and then the remaining undo-log rows are exactly those of `settle`: every accepted request's
    rows are gone and every other row is still there. -/
theorem C11_eventually_exact (rows0 : List Row) (es : List Ev) (oks : List Bool)
    (h : (run { rows := rows0 } es).queue.length ≤ oks.count true) :
    let s := run (run { rows := rows0 } es) (oks.map .proc)
    ∀ row, row ∈ s.rows ↔ row ∈ settle rows0 s.accepted :=
  (inv_run (inv_run (inv_init rows0) es) _).exact (C11_drains _ oks h)

/-- **one resource's outage costs the others nothing**: a batch in which some resources give no connection and
    some deletes fail loses no accepted request (that it deletes no other row is `C11_safety`, of whose events
    the batch step is one); before the repair a request of a resource that had not had its turn was lost for good -/
theorem C11_batch_loses_nothing (rows0 : List Row) (es : List Ev) (noConn : List Nat) (failed : List Req) :
    let s := step (run { rows := rows0 } es) (.batch noConn failed)
    ∀ q ∈ s.accepted, q ∈ s.queue ∨ q ∉ s.rows :=
  (inv_step (inv_run (inv_init rows0) es) _).2.1

theorem C11_before_fix_batch_loses_a_request :
    let s0 := run { rows := [⟨1, 7, 1⟩, ⟨2, 7, 1⟩] } [.accept ⟨1, 7, 1⟩, .accept ⟨2, 7, 1⟩]
    let s := batchBeforeFix s0 [1, 2] [1]
    (⟨2, 7, 1⟩ : Req) ∈ s.accepted ∧ (⟨2, 7, 1⟩ : Req) ∉ s.queue ∧ (⟨2, 7, 1⟩ : Row) ∈ s.rows := by decide

/-! ### non-vacuity -/

example : (run { rows := [⟨1, 7, 1⟩, ⟨1, 7, 2⟩, ⟨1, 8, 1⟩, ⟨2, 7, 1⟩] }
    [.accept ⟨1, 7, 1⟩, .proc false, .accept ⟨2, 7, 1⟩, .proc false, .proc true, .proc true]).rows =
    [⟨1, 7, 2⟩, ⟨1, 8, 1⟩] := by decide

end Seata.Props.C11
