/-
  C01 — AT global rollback restores every row the transaction touched.

  Model: `DB/Store.lean` (tables, statements), `AT/Phase1.lean` (images, undo items, compensation,
  data validation), `AT/World.lean` (branches, undo-log rows, rollback deliveries).  Tables are lists
  of rows; re-inserted rows go to the end, so "the same contents" is `List.Perm`.
-/
import SeataModel.Lemmas.Rollback
import SeataModel.AT.PairImages
import SeataModel.AT.InsertRoute
namespace Seata.Props.C01
open Seata.DB Seata.AT Seata.Lemmas.Store Seata.AT.PairImages

/-- Phase one of one statement followed by the compensation of its undo item gives back the table
    (as a set of rows), under every configuration, also when the table has been permuted meanwhile.
    A statement that touched no row changes nothing and leaves an empty item (which is not logged).
    (`hx`: the statement recorded no further item — true of every statement but an INSERT … ON
    DUPLICATE KEY UPDATE that both updated and inserted rows, see `C01_stmt_restore_extra`.) -/
theorem C01_stmt_restore (sc : Schema) (cfg : Cfg) (t : Table) (args : Args) (s : Stmt)
    (t' : Table) (item : Item) (keys : List Key)
    (hsc : WFSchema sc) (ht : WFTable sc t) (hs : WFStmt sc s)
    (h : stmtPhase1 sc cfg t args s = .ok (t', item, keys))
    (hx : extraItems sc t t' args s = []) :
    WFTable sc t' ∧
    (item.nonEmpty = false → t' = t) ∧
    (item.nonEmpty = true → ∀ u : Table, u.Perm t' →
      ∃ u' res, undoItem sc cfg u item = (u', res) ∧ (res = .done ∨ res = .skipped) ∧ u'.Perm t) := by
  have _ := hsc   -- (not needed: out-of-range key columns read as NULL consistently)
  obtain ⟨hwf, tm, h1, _, h3, h4⟩ := (stmtPhase1_effect cfg ht hs h).restoresX cfg ht
  cases h1 hx
  exact ⟨⟨hwf.1, hwf.2⟩, h3, h4⟩

/-- `hx` above holds for every statement that is not an INSERT … ON DUPLICATE KEY UPDATE -/
theorem C01_extraItems_nil (sc : Schema) (t t' : Table) (args : Args) (s : Stmt)
    (hs : ∀ rows assign, s ≠ .upsert rows assign) : extraItems sc t t' args s = [] := by
  cases s <;> first | rfl | exact absurd rfl (hs _ _)

/-- Every statement, including the INSERT … ON DUPLICATE KEY UPDATE that updated some rows and
    inserted others: the items it contributes to the branch (its main item if not empty, then
    `extraItems`), compensated last first as the rollback does, give back the table. -/
theorem C01_stmt_restore_extra (sc : Schema) (cfg : Cfg) (t : Table) (args : Args) (s : Stmt)
    (t' : Table) (item : Item) (keys : List Key)
    (hsc : WFSchema sc) (ht : WFTable sc t) (hs : WFStmt sc s)
    (h : stmtPhase1 sc cfg t args s = .ok (t', item, keys)) :
    WFTable sc t' ∧
    ∀ u : Table, u.Perm t' →
      ∃ u', undoFold sc cfg u
          ((if item.nonEmpty then [item] else []) ++ extraItems sc t t' args s).reverse = (u', true) ∧
        u'.Perm t := by
  have _ := hsc
  have hE := stmtPhase1_effect cfg ht hs h
  exact ⟨hE.wf ht, restoresX_fold (hE.restoresX cfg ht)⟩

/-- Phase one of a local transaction followed by the rollback of its branch restores the table and
    is answered "rollbacked". -/
theorem C01_branch_restore (sc : Schema) (cfg : Cfg) (t : Table) (ltx : LocalTx) (t' : Table) (b : Branch)
    (hsc : WFSchema sc) (ht : WFTable sc t) (hs : ∀ p ∈ ltx, WFStmt sc p.1)
    (h : localPhase1 sc cfg t ltx = .ok (t', b)) :
    WFTable sc t' ∧
    ∀ u : Table, u.Perm t' → ∃ u', undoBranch sc cfg u b = (u', true) ∧ u'.Perm t := by
  have _ := hsc
  obtain ⟨hwf, hrest⟩ := local_restore cfg ht hs h
  refine ⟨hwf, fun u hp => ?_⟩
  obtain ⟨u', hf, hp'⟩ := hrest u hp
  exact ⟨u', undoBranch_of_fold sc cfg u u' b hf, hp'⟩

/-- The same when the application ignores failed statements of the local transaction (the database
    undoes a failed statement by itself) and commits what went through. -/
theorem C01_lenient_branch_restore (sc : Schema) (cfg : Cfg) (t : Table) (ltx : LocalTx)
    (hsc : WFSchema sc) (ht : WFTable sc t) (hs : ∀ p ∈ ltx, WFStmt sc p.1) :
    WFTable sc (localPhase1Lenient sc cfg t ltx).1 ∧
    ∀ u : Table, u.Perm (localPhase1Lenient sc cfg t ltx).1 →
      ∃ u', undoBranch sc cfg u (localPhase1Lenient sc cfg t ltx).2.1 = (u', true) ∧ u'.Perm t := by
  have _ := hsc
  obtain ⟨hwf, hrest⟩ := lenient_restore cfg ht hs
  refine ⟨hwf, fun u hp => ?_⟩
  obtain ⟨u', hf, hp'⟩ := hrest u hp
  exact ⟨u', undoBranch_of_fold sc cfg u u' _ hf, hp'⟩

/-- phase one of the local transactions of a global transaction, in order -/
def globalPhase1 (sc : Schema) (cfg : Cfg) (w : World) : List LocalTx → Option World
  | [] => some w
  | l :: rest => match runLocalTx sc cfg w l with
    | none => none
    | some w' => globalPhase1 sc cfg w' rest

theorem globalPhase1_rollsBack (sc : Schema) (cfg : Cfg) (t0 : Table) (ltxs : List LocalTx) :
    ∀ (w w' : World), WFTable sc w.t → RollsBack sc cfg t0 w.branches w.t →
      (∀ l ∈ ltxs, ∀ p ∈ l, WFStmt sc p.1) → globalPhase1 sc cfg w ltxs = some w' →
      RollsBack sc cfg t0 w'.branches w'.t := by
  induction ltxs with
  | nil => intro w w' _ hc _ h; cases h; exact hc
  | cons l rest ih =>
    intro w w' ht hc hs h
    simp only [globalPhase1] at h
    split at h
    · cases h
    · rename_i w1 h1
      obtain ⟨ht1, hc1⟩ := runLocalTx_rollsBack ht (hs l List.mem_cons_self) hc h1
      exact ih w1 w' ht1 hc1 (fun l' hl' => hs l' (List.mem_cons_of_mem _ hl')) h

/-- **C01**: after phase one of any number of local transactions, rolling every branch back (last
    first) is answered "rollbacked" by every branch, restores the table it started from and leaves no
    undo-log row. -/
theorem C01_global_restore (sc : Schema) (cfg : Cfg) (t : Table) (ltxs : List LocalTx) (w : World)
    (hsc : WFSchema sc) (ht : WFTable sc t) (hs : ∀ l ∈ ltxs, ∀ p ∈ l, WFStmt sc p.1)
    (h : globalPhase1 sc cfg { t := t, branches := [] } ltxs = some w) :
    ∃ w', rollbackAll sc cfg w = (w', true) ∧ w'.t.Perm t ∧ ∀ bs ∈ w'.branches, bs.hasLog = false := by
  have _ := hsc
  exact globalPhase1_rollsBack sc cfg t ltxs { t := t, branches := [] } w ht .nil hs h w.t (.refl _)

/-- The branch answers "rollbacked" for a logged branch only if every undo item was compensated (or
    needed no compensation); otherwise the answer is a failure and nothing has changed. -/
theorem C01_answer_sound (sc : Schema) (cfg : Cfg) (w : World) (i : Nat) (bs : BranchSt)
    (hb : w.branches[i]? = some bs) (hl : bs.hasLog = true) :
    ((rollbackBranch sc cfg w i).2 = true → (undoFold sc cfg w.t bs.b.items.reverse).2 = true ∧
        (rollbackBranch sc cfg w i).1.t = (undoFold sc cfg w.t bs.b.items.reverse).1) ∧
    ((rollbackBranch sc cfg w i).2 = false → (rollbackBranch sc cfg w i).1 = w) := by
  rw [rollbackBranch_log hb hl, undoBranch]
  rcases undoFold sc cfg w.t bs.b.items.reverse with ⟨u, ok⟩
  cases ok <;> simp

/-- an item that cannot be compensated makes the whole branch fail (never "rollbacked") -/
theorem C01_failure_reported (sc : Schema) (cfg : Cfg) (t : Table) (pre post : List Item) (it : Item)
    (hpre : (undoFold sc cfg t pre).2 = true)
    (hit : (undoItem sc cfg (undoFold sc cfg t pre).1 it).2 = .dirty ∨
           (undoItem sc cfg (undoFold sc cfg t pre).1 it).2 = .sqlError) :
    undoFold sc cfg t (pre ++ it :: post) = ((undoFold sc cfg t pre).1, false) :=
  undoFold_fail sc cfg t pre post it hpre hit

/-! ### non-vacuity -/

def sc1 : Schema := { ncols := 2, pk := [0] }
def t1 : Table := [[.int 1, .int 10], [.int 2, .int 20]]
def upd : Stmt := .update [(1, .plus 1 (.lit (.int 5)))] (.cmp .eq (.col 0) (.par 0))

example : WFSchema sc1 := ⟨by decide⟩
example : WFStmt sc1 upd := by simp [WFStmt, upd, sc1]
example : ∃ t' b, localPhase1 sc1 ⟨true, true⟩ t1 [(upd, [.int 2]), (.delete .tt, [])] = .ok (t', b) ∧
    t' = [] ∧ b.items.length = 2 ∧ (undoBranch sc1 ⟨true, true⟩ t' b) = ([[.int 1, .int 10], [.int 2, .int 20]], true) := by
  refine ⟨_, _, rfl, ?_⟩
  decide

example : WFTable sc1 t1 := ⟨by simp [PkUnique, sc1, t1, keyOf], by simp [sc1, t1]⟩
/-- two branches, rolled back last first: the table is back (here even in the original order) -/
example : ∃ w, globalPhase1 sc1 ⟨true, true⟩ { t := t1 } [[(upd, [.int 2])], [(.delete .tt, [])]] = some w ∧
    w.t = [] ∧ w.branches.length = 2 ∧
    (rollbackAll sc1 ⟨true, true⟩ w).2 = true ∧ (rollbackAll sc1 ⟨true, true⟩ w).1.t = t1 := by
  refine ⟨_, rfl, ?_⟩
  decide

/-- UPDATE … ORDER BY c1 DESC LIMIT 1, then DELETE … ORDER BY c0 LIMIT 1, rolled back -/
def updLim : Stmt := .updateLim [(1, .val (.lit (.int 0)))] .tt [(1, true)] 1
def delLim : Stmt := .deleteLim .tt [(0, false)] 1
example : WFStmt sc1 updLim ∧ WFStmt sc1 delLim := by simp [WFStmt, updLim, delLim, sc1]
example : ∃ t' b, localPhase1 sc1 ⟨true, true⟩ t1 [(updLim, []), (delLim, [])] = .ok (t', b) ∧
    t' = [[.int 2, .int 0]] ∧ b.items.length = 2 ∧
    (undoBranch sc1 ⟨true, true⟩ t' b) = ([[.int 2, .int 20], [.int 1, .int 10]], true) := by
  refine ⟨_, _, rfl, ?_⟩
  decide

/-- INSERT … ON DUPLICATE KEY UPDATE that updates key 2 and inserts key 3: two items (UPDATE, INSERT) -/
def ups : Stmt := .upsert [[.lit (.int 2), .lit (.int 21)], [.lit (.int 3), .lit (.int 30)]] [(1, .values)]
example : WFStmt sc1 ups := by simp [WFStmt, ups, sc1]
example : ∃ t' b, localPhase1 sc1 ⟨true, true⟩ t1 [(ups, [])] = .ok (t', b) ∧
    t' = [[.int 1, .int 10], [.int 2, .int 21], [.int 3, .int 30]] ∧ b.items.map (·.kind) = [.update, .insert] ∧
    (undoBranch sc1 ⟨true, true⟩ t' b) = (t1, true) := by
  refine ⟨_, _, rfl, ?_⟩
  decide

/-! ### multi-statement batches over several tables: pairing the images -/

theorem mapM_option {α β : Type} (f : α → Option β) (l : List α) :
    l.mapM f = if l.all (fun x => (f x).isSome) then some (l.filterMap f) else none := by
  induction l with
  | nil => rfl
  | cons a l ih =>
    rw [List.mapM_cons, ih, List.all_cons, List.filterMap_cons]
    cases f a with
    | none => rfl
    | some b => cases l.all (fun x => (f x).isSome) <;> rfl

theorem filterMap_eq_map_of {α β : Type} {f : α → Option β} {g : α → β} {l : List α}
    (h : ∀ a ∈ l, f a = some (g a)) : l.filterMap f = l.map g := by
  induction l with
  | nil => rfl
  | cons a l ih =>
    have ⟨ha, hl⟩ := List.forall_mem_cons.1 h
    rw [List.filterMap_cons_some ha, ih hl, List.map_cons]

/-- whatever the two walks over the map gave: the images that come out are after images, and when they were
    re-ordered at all they stand table for table where the before images stand -/
theorem C01_paired_images_are_after_images {α : Type} (before after : List (Image α)) :
    ∀ p ∈ pairByTable before after, p ∈ after := by
  intro p hp
  unfold pairByTable at hp
  split at hp
  · exact hp
  split at hp
  · exact hp
  split at hp
  · next paired hm =>
    rw [mapM_option] at hm
    split at hm <;> cases hm
    obtain ⟨b, -, hb⟩ := List.mem_filterMap.1 hp
    exact List.mem_of_find?_eq_some hb
  · exact hp

/-- when every before image has an after image of its table (and no table occurs twice among the after images),
    position i of the result is the after image of the table at position i of the before images -/
theorem C01_paired_by_table {α : Type} (before after : List (Image α))
    (hlen : before.length = after.length) (hnd : (after.map Prod.fst).Nodup)
    (hall : ∀ b ∈ before, ∃ a ∈ after, a.1 = b.1) :
    (pairByTable before after).map Prod.fst = before.map Prod.fst := by
  -- every before image finds a partner, and the partner found has its table
  have hfind : ∀ b ∈ before, (after.find? fun a => a.1 == b.1).map Prod.fst = some b.1 := fun b hb => by
    cases hf : after.find? fun a => a.1 == b.1 with
    | none =>
      obtain ⟨a, ha, hab⟩ := hall b hb
      exact absurd (beq_iff_eq.2 hab) (List.find?_eq_none.1 hf a ha)
    | some x => exact congrArg some (eq_of_beq (List.find?_some hf :))
  unfold pairByTable
  rw [if_neg (· hlen), if_neg (· hnd), mapM_option,
    if_pos (List.all_eq_true.2 fun b hb => by rw [← Option.isSome_map, hfind b hb]; rfl)]
  exact List.map_filterMap.trans (filterMap_eq_map_of hfind)

example : pairByTable [("t1", 1), ("t2", 2)] [("t2", 20), ("t1", 10)] = [("t1", 10), ("t2", 20)] := by decide

/-! ### which executor records an INSERT-like statement (AT/InsertRoute.lean) -/
section insertRoute
open Seata.AT.InsertRoute

theorem noneB_eq_true {p : RowInfo → Bool} {rows : List RowInfo} :
    noneB p rows = true ↔ ∀ r ∈ rows, p r = false := by
  simp [noneB]

theorem route_spec (v : Verb) (rows : List RowInfo) :
    (route v rows = .upsert → allB identifiable rows = true) ∧
    (route v rows = .plain → (allB (·.keyGiven) rows || noneB (·.keyGiven) rows) = true ∧
      (v ≠ .insert → noneB identifiable rows = true)) := by
  cases v with
  | insert =>
    dsimp only [route]
    split
    · next hk => exact ⟨nofun, fun _ => ⟨hk, (absurd rfl ·)⟩⟩
    · exact ⟨nofun, nofun⟩
  | ignore | replace =>
    dsimp only [route]
    split
    · next hn =>
      split
      · next hk => exact ⟨nofun, fun _ => ⟨hk, fun _ => hn⟩⟩
      · exact ⟨nofun, nofun⟩
    · split
      · next ha => exact ⟨fun _ => ha, nofun⟩
      · exact ⟨nofun, nofun⟩
  | onDuplicate =>
    dsimp only [route]
    split
    · next ha => exact ⟨fun _ => (Bool.and_eq_true _ _ ▸ ha).1, nofun⟩
    · exact ⟨nofun, nofun⟩

/-- a statement that goes to the insert-on-duplicate executor has every one of its rows identifiable: the image
    queries, which look rows up by the unique values they give, find all of them -/
theorem C01_upsert_route_finds_every_row (v : Verb) (rows : List RowInfo) (h : route v rows = .upsert) :
    ∀ r ∈ rows, identifiable r = true :=
  List.all_eq_true.1 ((route_spec v rows).1 h)

/-- an INSERT IGNORE / REPLACE that goes to the plain insert executor can meet no row that exists: none of its
    rows gives the value of a unique index -/
theorem C01_plain_route_meets_nothing (v : Verb) (rows : List RowInfo) (hv : v = .ignore ∨ v = .replace)
    (h : route v rows = .plain) : ∀ r ∈ rows, identifiable r = false :=
  noneB_eq_true.1 (((route_spec v rows).2 h).2 (by rcases hv with rfl | rfl <;> nofun))

/-- the keys of the rows a plain executor records are all given by the statement, or all assigned by the
    database (and then reported by the result): never some of each -/
theorem C01_plain_route_keys_uniform (v : Verb) (rows : List RowInfo) (h : route v rows = .plain) :
    (∀ r ∈ rows, r.keyGiven = true) ∨ (∀ r ∈ rows, r.keyGiven = false) :=
  (Bool.or_eq_true _ _ ▸ ((route_spec v rows).2 h).1).imp List.all_eq_true.1 noneB_eq_true.1

/-- the statements of the review rounds, before and after: REPLACE INTO t (name, age) on a table with a surrogate
    key and a UNIQUE name; INSERT ... VALUES (NULL, ..), (100, ..); REPLACE INTO t (age) -/
theorem C01_route_examples :
    route .replace [{ keyGiven := false, otherUniqueGiven := true }] = .upsert ∧
    routeBeforeFix .replace [{ keyGiven := false, otherUniqueGiven := true }] = .plain ∧
    route .insert [{ keyGiven := false, otherUniqueGiven := false }, { keyGiven := true, otherUniqueGiven := false }] = .refuse ∧
    routeBeforeFix .insert [{ keyGiven := false, otherUniqueGiven := false }, { keyGiven := true, otherUniqueGiven := false }] = .plain ∧
    route .replace [{ keyGiven := false, otherUniqueGiven := false }] = .plain ∧
    route .ignore [{ keyGiven := false, otherUniqueGiven := true }, { keyGiven := false, otherUniqueGiven := false }] = .refuse := by
  decide

end insertRoute

end Seata.Props.C01
