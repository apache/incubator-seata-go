/-
  C12 — wire codec matches the Seata v1 message layout and round-trips every message.
-/
import SeataModel.Lemmas.Codec
namespace Seata.Props.C12
open Seata.Codec

/-- Round trip for EVERY well-formed layout, every value list within the wire limits, any trailing
    bytes: decoding the encoding yields the normalised message and consumes exactly the body. -/
theorem C12_roundtrip (f : Bool) (L : Layout) (vs : List FVal) (rest : Bytes)
    (hwf : wf L = true) (hin : within L vs = true) :
    decode f L (encode f L vs ++ rest) = some (normalize f L vs, rest) := by
  induction L generalizing f vs with
  | nil => cases vs <;> simp_all [encode, decode, normalize, within]
  | cons fd L ih =>
    cases vs with
    | nil => simp [within] at hin
    | cons v vs =>
      simp only [within, wf, List.all_cons, Bool.and_eq_true] at hin hwf
      simp only [encode, decode, normalize, List.append_assoc, decodeF_encodeF f fd v _ hwf.1 hin.1,
        nextFailed_normalize, ih _ vs hwf.2 hin.2]

/-- All 24 rows of the v1 table are well-formed (each message cap fits its length prefix). -/
theorem C12_v1_wf : ∀ k ∈ MsgKind.all, wf (v1 k) = true := by decide

/-- The table fact everything about type codes rests on: the decoder's lookup of a kind's code finds that kind. -/
theorem find_typeCode (k : MsgKind) :
    MsgKind.all.find? (fun k' => typeCode k' == typeCode k) = some k := by
  cases k <;> rfl

theorem C12_all_complete (k : MsgKind) : k ∈ MsgKind.all := List.mem_of_find?_eq_some (find_typeCode k)

theorem C12_typecode_injective : ∀ a ∈ MsgKind.all, ∀ b ∈ MsgKind.all, typeCode a = typeCode b → a = b := by
  intro a _ b _ h
  have := find_typeCode a
  rw [h, find_typeCode b] at this
  exact (Option.some.inj this).symm

theorem typeCode_lt (k : MsgKind) : typeCode k < 256 ^ 2 := by cases k <;> decide

/-- Whole-message round trip (type code + body) for each of the 24 kinds: the decoder picks the
    same kind, returns the normalised fields and consumes the whole message. -/
theorem C12_msg_roundtrip (k : MsgKind) (vs : List FVal) (rest : Bytes)
    (hin : within (v1 k) vs = true) :
    decodeMsg (encodeMsg k vs ++ rest) = some (k, normalize false (v1 k) vs, rest) := by
  unfold decodeMsg encodeMsg
  rw [List.append_assoc, getBE_putBE_lt _ _ _ (typeCode_lt k)]
  simp only [find_typeCode]
  rw [C12_roundtrip false (v1 k) vs rest (C12_v1_wf k (C12_all_complete k)) hin]
  rfl

/-- consumes the whole body: nothing is left over -/
theorem C12_consumes_body (k : MsgKind) (vs : List FVal) (hin : within (v1 k) vs = true) :
    decodeMsg (encodeMsg k vs) = some (k, normalize false (v1 k) vs, []) := by
  simpa using C12_msg_roundtrip k vs [] hin

/-- the encoding starts with the kind's 16-bit big-endian type code -/
theorem C12_encode_prefix (k : MsgKind) (vs : List FVal) :
    (encodeMsg k vs).take 2 = putBE 2 (typeCode k) :=
  List.take_left' (putBE_length 2 _)

/-- An over-long error message is cut to the cap and every other field survives:
    instance of the round trip for a Failed result with a message of ANY length. -/
theorem C12_truncation_keeps_tail (w cap : Nat) (hc : cap < 256 ^ w) (tail : Layout) (m : Bytes)
    (e : Nat) (he : e < 256) (vs : List FVal) (rest : Bytes)
    (hwf : wf tail = true) (hin : within tail vs = true) :
    decode false (.rc :: .msg w cap :: .u8 :: tail)
        (encode false (.rc :: .msg w cap :: .u8 :: tail) (.nat 0 :: .bytes m :: .nat e :: vs) ++ rest)
      = some (.nat 0 :: .bytes (m.take cap) :: .nat e :: normalize true tail vs, rest) := by
  rw [C12_roundtrip false _ _ rest (by simpa [wf, wfF, hc] using hwf) (by simp [within, withinF, he, hin])]
  simp [normalize, normalizeF, nextFailed]

/-- registry completeness on the model side: every kind has a (unique) code; the tie checks the
    Go registry against this list on every run. -/
theorem C12_registered (k : MsgKind) :
    k ∈ registered ∧ MsgKind.all.find? (fun k' => typeCode k' == typeCode k) = some k :=
  ⟨C12_all_complete k, find_typeCode k⟩

/-! Non-vacuity: concrete messages satisfy the hypotheses, including an over-long message. -/

example : within (v1 .branchCommitResult)
    [.nat 0, .bytes (List.replicate 40000 0x41), .nat 3, .bytes [0xe4, 0xb8, 0xad], .int (-1), .nat 5] = true := by
  decide +kernel

example : decodeMsg (encodeMsg .globalLockQueryResult [.nat 1, .bytes [1,2,3], .nat 0, .bool true])
    = some (.globalLockQueryResult, [.nat 1, .bytes [], .nat 0, .bool true], []) := by
  decide +kernel

example : encodeMsg .globalBegin [.nat 60000999999, .bytes [0x74, 0x78]]
    = [0,1, 0,0,0xea,0x60, 0,2, 0x74,0x78] := by decide +kernel

end Seata.Props.C12
