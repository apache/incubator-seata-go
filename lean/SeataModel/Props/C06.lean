/-
  C06 — TCC fence: idempotence, anti-suspension and empty rollback.
-/
import SeataModel.TCC.FenceDriver
import SeataModel.Lemmas.FenceRace
import SeataModel.Lemmas.Assoc
namespace Seata.Props.C06
open Seata.Fence

/-- the invariant tying the record to the durable effects: the record says exactly which effects
    have been applied -/
def Inv (s : BranchSt) : Prop :=
  (s.row = none → s.tries = 0 ∧ s.confirms = 0 ∧ s.cancels = 0) ∧
  (s.row = some .tried → s.tries = 1 ∧ s.confirms = 0 ∧ s.cancels = 0) ∧
  (s.row = some .committed → s.tries = 1 ∧ s.confirms = 1 ∧ s.cancels = 0) ∧
  (s.row = some .rollbacked → s.tries = 1 ∧ s.confirms = 0 ∧ s.cancels = 1) ∧
  (s.row = some .suspended → s.tries = 0 ∧ s.confirms = 0 ∧ s.cancels = 0)

theorem inv_iff_mem {s : BranchSt} : Inv s ↔ s ∈ Race.states := by
  constructor
  · rintro ⟨h1, h2, h3, h4, h5⟩
    obtain ⟨row, t, c, k⟩ := s
    rcases row with _ | _ | _ | _ | _
    · obtain ⟨rfl, rfl, rfl⟩ := h1 rfl; decide
    · obtain ⟨rfl, rfl, rfl⟩ := h2 rfl; decide
    · obtain ⟨rfl, rfl, rfl⟩ := h3 rfl; decide
    · obtain ⟨rfl, rfl, rfl⟩ := h4 rfl; decide
    · obtain ⟨rfl, rfl, rfl⟩ := h5 rfl; decide
  · revert s; unfold Inv; decide

/-- atomic: a database failure at ANY statement of the local transaction, or a failure of the callback
    where it runs, leaves the fence record and every effect counter exactly as they were -/
theorem C06_atomic (p : Phase) (f : Option Nat) (cb : Bool) (s : BranchSt)
    (h : fires f (pathLen p s.row) = true ∨ (cb = true ∧ runsCallback p s.row = true)) :
    deliver p f cb s = (s, .refused) := by
  unfold deliver
  cases fenceStep p s.row with
  | refuse => rfl
  | go r => rcases h with h | ⟨h, h'⟩ <;> simp [*]

theorem deliver_eq_or (p : Phase) (f : Option Nat) (cb : Bool) (s : BranchSt) :
    deliver p f cb s = (s, .refused) ∨ deliver p f cb s = deliver p none false s := by
  by_cases h : fires f (pathLen p s.row) = true ∨ (cb = true ∧ runsCallback p s.row = true)
  · exact .inl (C06_atomic p f cb s h)
  · have hf : (fires f (pathLen p s.row) || (cb && runsCallback p s.row)) = false := by simpa using h
    exact .inr (by simp only [deliver, hf]; rfl)

theorem deliver_states : ∀ p ∈ Race.phases, ∀ s ∈ Race.states, (deliver p none false s).1 ∈ Race.states := by
  decide

open Seata.Lemmas.FenceRace in
theorem deliver_mem (p : Phase) (f : Option Nat) (cb : Bool) {s : BranchSt} (h : s ∈ Race.states) :
    (deliver p f cb s).1 ∈ Race.states := by
  rcases deliver_eq_or p f cb s with e | e <;> rw [e]
  · exact h
  · exact deliver_states p (mem_phases p) s h

theorem deliver_inv (p : Phase) (f : Option Nat) (cb : Bool) (s : BranchSt) (h : Inv s) :
    Inv (deliver p f cb s).1 :=
  inv_iff_mem.2 (deliver_mem p f cb (inv_iff_mem.1 h))

open Seata.Lemmas.Assoc in
theorem get_put (st : Store) (b b' : Nat) (s : BranchSt) :
    Fence.get (Fence.put st b s) b' = if b' = b then s else Fence.get st b' := by
  unfold Fence.get Fence.put
  rw [List.find?_cons, find?_filter_ne]
  by_cases h : b' = b
  · simp [h]
  · simp [h, beq_false_of_ne (Ne.symm h)]

theorem get_nil (b : Nat) : Fence.get [] b = {} := rfl

open Seata.Fence.Race in
/-- the five states are the states a branch can be in: every reachable state of `run` is one of them -/
theorem C06_reachable_states (xs : List Delivery) (b : Nat) : Fence.get (run xs) b ∈ Race.states := by
  refine List.foldlRecOn (motive := fun st => ∀ b, Fence.get st b ∈ Race.states) xs _ (b := [])
    (fun _ => (by decide : ({} : BranchSt) ∈ Race.states)) ?_ b
  intro st h x _ b
  simp only [stepWith, get_put]
  split
  · exact deliver_mem _ _ _ (h _)
  · exact h b

/-- FULL property, all sequences / branches / faults: each of the try, confirm and cancel effects is
    applied at most once per branch, whatever is delivered in whatever order and multiplicity -/
theorem C06_at_most_once (xs : List Delivery) (b : Nat) :
    (Fence.get (run xs) b).tries ≤ 1 ∧ (Fence.get (run xs) b).confirms ≤ 1 ∧ (Fence.get (run xs) b).cancels ≤ 1 :=
  (by decide : ∀ s ∈ Race.states, s.tries ≤ 1 ∧ s.confirms ≤ 1 ∧ s.cancels ≤ 1) _ (C06_reachable_states xs b)

theorem C06_try_at_most_once (xs : List Delivery) (b : Nat) : (Fence.get (run xs) b).tries ≤ 1 :=
  (C06_at_most_once xs b).1

/-- confirm and cancel are never both applied -/
theorem C06_exclusive (xs : List Delivery) (b : Nat) :
    ¬ (0 < (Fence.get (run xs) b).confirms ∧ 0 < (Fence.get (run xs) b).cancels) :=
  (by decide : ∀ s ∈ Race.states, ¬ (0 < s.confirms ∧ 0 < s.cancels)) _ (C06_reachable_states xs b)

/-- confirm and cancel are only ever applied to a branch whose try was applied -/
theorem C06_confirm_needs_try (xs : List Delivery) (b : Nat)
    (h : 0 < (Fence.get (run xs) b).confirms ∨ 0 < (Fence.get (run xs) b).cancels) :
    (Fence.get (run xs) b).tries = 1 :=
  (by decide : ∀ s ∈ Race.states, 0 < s.confirms ∨ 0 < s.cancels → s.tries = 1) _ (C06_reachable_states xs b) h

theorem bump_row (p : Phase) (s : BranchSt) : (bump p s).row = s.row := by cases p <;> rfl

theorem bump_effects (p : Phase) (s : BranchSt) :
    (bump p s).tries + (bump p s).confirms + (bump p s).cancels = s.tries + s.confirms + s.cancels + 1 := by
  cases p <;> simp only [bump] <;> omega

theorem runsCallback_cases {p : Phase} {row : Option Status} (h : runsCallback p row = true) :
    (p = .prepare ∧ row = none) ∨ (p = .commit ∧ row = some .tried) ∨ (p = .rollback ∧ row = some .tried) := by
  unfold runsCallback at h; split at h <;> simp_all

theorem go_moves {p : Phase} {row : Option Status} {r : Status} (hs : fenceStep p row = .go r)
    (hc : runsCallback p row = true) : some r ≠ row := by
  rcases runsCallback_cases hc with ⟨rfl, rfl⟩ | ⟨rfl, rfl⟩ | ⟨rfl, rfl⟩ <;> cases hs <;> decide

/-- the record and the effect move together: a delivery that is answered `ok` and runs the callback
    changes the record AND applies exactly one effect; one that does not run it changes at most the record -/
theorem C06_record_and_effect_together (p : Phase) (f : Option Nat) (cb : Bool) (s : BranchSt)
    (h : (deliver p f cb s).2 = .ok) :
    (runsCallback p s.row = true →
      (deliver p f cb s).1.tries + (deliver p f cb s).1.confirms + (deliver p f cb s).1.cancels
        = s.tries + s.confirms + s.cancels + 1 ∧ (deliver p f cb s).1.row ≠ s.row) ∧
    (runsCallback p s.row = false →
      (deliver p f cb s).1.tries = s.tries ∧ (deliver p f cb s).1.confirms = s.confirms ∧
      (deliver p f cb s).1.cancels = s.cancels) := by
  rcases deliver_eq_or p f cb s with e | e <;> rw [e] at h ⊢
  · cases h
  · unfold deliver at h ⊢
    cases hs : fenceStep p s.row with
    | refuse => rw [hs] at h; cases h
    | go r =>
      cases hc : runsCallback p s.row
      · simp [fires]
      · simp only [fires, Bool.false_or, Bool.false_and, Bool.false_eq_true, if_false, if_true, bump_row, bump_effects]
        exact ⟨fun _ => ⟨trivial, go_moves hs hc⟩, fun e => nomatch e⟩

theorem suspended_step (p : Phase) (f : Option Nat) (cb : Bool) (s : BranchSt) (h : s.row = some .suspended) :
    (deliver p f cb s).1 = s ∧ (p = .prepare → (deliver p f cb s).2 = .refused) := by
  rcases deliver_eq_or p f cb s with e | e <;> rw [e]
  · exact ⟨rfl, fun _ => rfl⟩
  · -- without a fault: the three rows of the fence table at `suspended`
    obtain ⟨row, t, c, k⟩ := s
    subst h
    cases p
    · exact ⟨rfl, fun _ => rfl⟩
    · exact ⟨rfl, nofun⟩
    · exact ⟨rfl, nofun⟩

theorem suspended_stays (st : Store) (xs : List Delivery) (b : Nat) (h : (Fence.get st b).row = some .suspended) :
    Fence.get (xs.foldl (stepWith deliver) st) b = Fence.get st b := by
  induction xs generalizing st with
  | nil => rfl
  | cons x r ih =>
    have hstep : Fence.get (stepWith deliver st x) b = Fence.get st b := by
      simp only [stepWith, get_put]
      split
      · next hb => subst hb; exact (suspended_step _ _ _ _ h).1
      · rfl
    rw [List.foldl_cons, ih _ (hstep ▸ h), hstep]

/-- anti-suspension: once a rollback has arrived before try (record `suspended`), every later try is
    refused and applies nothing — for every continuation of the history (the refusal itself: `suspended_step`) -/
theorem C06_anti_suspension (st : Store) (xs : List Delivery) (b : Nat)
    (h : (Fence.get st b).row = some .suspended) :
    (Fence.get (xs.foldl (stepWith deliver) st) b).row = some .suspended ∧
    (Fence.get (xs.foldl (stepWith deliver) st) b).tries = (Fence.get st b).tries := by
  rw [suspended_stays st xs b h]
  exact ⟨h, rfl⟩

/-- an empty rollback records the suspension and applies NO business effect -/
theorem C06_empty_rollback_suspends (s : BranchSt) (cb : Bool) (h : s.row = none) :
    (deliver .rollback none cb s).1.row = some .suspended ∧ (deliver .rollback none cb s).2 = .ok ∧
    (deliver .rollback none cb s).1.cancels = s.cancels ∧ (deliver .rollback none cb s).1.tries = s.tries ∧
    (deliver .rollback none cb s).1.confirms = s.confirms := by
  simp [deliver, h, fenceStep, fires, runsCallback]

/-- a repeated commit (rollback) of a committed (rolled-back) branch is answered `ok` and changes nothing -/
theorem C06_duplicate_is_noop (s : BranchSt) (cb : Bool) :
    (s.row = some .committed → deliver .commit none cb s = (s, .ok)) ∧
    (s.row = some .rollbacked → deliver .rollback none cb s = (s, .ok)) ∧
    (s.row = some .suspended → deliver .rollback none cb s = (s, .ok)) := by
  refine ⟨fun h => ?_, fun h => ?_, fun h => ?_⟩ <;>
    (simp only [deliver, h, fenceStep, fires, runsCallback]; cases s; simp_all)

/-- branches sharing the fence table do not influence each other -/
theorem C06_branches_independent (st : Store) (x : Delivery) (b : Nat) (h : b ≠ x.branch) :
    Fence.get (stepWith deliver st x) b = Fence.get st b := by
  simp [stepWith, get_put, h]

/-! What the repair changed, machine-checked: before it, `WithFence` ran the callback whenever the fence
    step returned nil, so the full at-most-once statement was FALSE of the code (fixed findings
    C06-duplicate-commit, C06-duplicate-rollback, C06-empty-rollback-runs-cancel). -/

theorem C06_before_fix_duplicate_commit :
    (Fence.get (runBeforeFix [{ branch := 1, phase := .prepare }, { branch := 1, phase := .commit }, { branch := 1, phase := .commit }]) 1).confirms = 2 := by
  decide
theorem C06_before_fix_duplicate_rollback :
    (Fence.get (runBeforeFix [{ branch := 1, phase := .prepare }, { branch := 1, phase := .rollback }, { branch := 1, phase := .rollback }]) 1).cancels = 2 := by
  decide
theorem C06_before_fix_empty_rollback_runs_cancel :
    (Fence.get (runBeforeFix [{ branch := 1, phase := .rollback }]) 1).cancels = 1 := by decide

/-- where the callback runs, or the fence refuses, the repair changed nothing -/
theorem C06_fix_is_local (p : Phase) (f : Option Nat) (cb : Bool) (s : BranchSt)
    (h : runsCallback p s.row = true ∨ fenceStep p s.row = .refuse) :
    deliver p f cb s = deliverBeforeFix p f cb s := by
  unfold deliver deliverBeforeFix
  rcases h with h | h
  · have hl : pathLen p s.row = pathLenBeforeFix p s.row := by
      rcases runsCallback_cases h with ⟨rfl, hr⟩ | ⟨rfl, hr⟩ | ⟨rfl, hr⟩ <;> rw [hr] <;> rfl
    simp [h, hl]
  · simp [h]

/-! Counter-example against the shape at c3b0bd5: no suspension was recorded, so a late try went through. -/
theorem C06_asCoded_no_suspension :
    fenceStepAsCoded_c3b0bd5 .rollback none = .refuse ∧ fenceStepAsCoded_c3b0bd5 .prepare none = .go .tried := by decide

open Seata.Fence.Race in
/-- **racing deliveries are serializable**: two deliveries for one branch, in any of its five states, with
    their database statements interleaved in ANY way (a schedule of 8 choices fixes the interleaving: a local
    transaction has at most 4 statements after BEGIN; what is left afterwards runs to its end), end exactly like
    one of the two serial orders, or like one delivery alone with the other refused (the coordinator delivers
    it again), or with both refused — the durable record, the effect counters and the two answers -/
theorem C06_race_serializable (db : BranchSt) (hdb : db ∈ Race.states) (pa pb : Phase) (ws : List Bool)
    (hlen : ws.length = 8) : Race.outcome pa pb db ws ∈ Race.allowed pa pb db := by
  have _ := hlen   -- not needed: `outcome_mem_allowed` holds of schedules of every length
  exact Seata.Lemmas.FenceRace.outcome_mem_allowed hdb pa pb ws

/-- an interleaving that is not a serial order: the rollback asks first (no record), the try then runs to its
    end, the rollback's insert of the suspension meets the committed record (1062) and is refused -/
example : Race.outcome .rollback .prepare {} [true, false, false, false, true, true, true, true] =
    ({ row := some .tried, tries := 1 }, some .refused, some .ok) := by decide

/-! ### the fence driver path (TCC/FenceDriver.lean): business and fence transaction on two connections -/
section driver
open Seata.Fence.Driver

/-- as long as neither commit fails, a delivery through the driver is a delivery through WithFence: record,
    effects and answer are the same (this is what ties the cases fd-* to the model of WithFence) -/
theorem C06_driver_is_fence_when_commits_succeed (p : Phase) (s : BranchSt) :
    deliverDriver p .none s = deliver p none false s := by
  unfold deliverDriver deliver
  cases h : fenceStep p s.row <;> simp [fires]
  cases hr : runsCallback p s.row <;> simp

/-- where the callback does not run there is no business transaction that could fail: the fence transaction
    commits alone -/
theorem driver_business (p : Phase) (s : BranchSt) :
    deliverDriver p .business s = (s, .refused) ∨
      (runsCallback p s.row = false ∧ deliverDriver p .business s = deliverDriver p .none s) := by
  unfold deliverDriver
  cases fenceStep p s.row with
  | refuse => exact .inl rfl
  | go r =>
    cases runsCallback p s.row
    · exact .inr ⟨rfl, rfl⟩
    · exact .inl rfl

/-- a business commit that fails leaves nothing behind: the fence transaction is rolled back with it (where the
    callback does not run there is no business transaction: second disjunct) -/
theorem C06_driver_business_commit_failure_changes_nothing (p : Phase) (s : BranchSt) :
    (deliverDriver p .business s).1 = s ∨ runsCallback p s.row = false :=
  (driver_business p s).imp (fun e => by rw [e]) (·.1)

/-- the invariant (the record says exactly which effects are durable) survives every delivery through the
    driver in which the FENCE commit does not fail -/
theorem C06_driver_inv_unless_fence_commit_fails (p : Phase) (cf : CommitFault) (s : BranchSt) (h : Inv s)
    (hcf : cf ≠ .fence) : Inv (deliverDriver p cf s).1 := by
  have hnone : Inv (deliverDriver p .none s).1 := by
    rw [C06_driver_is_fence_when_commits_succeed]; exact deliver_inv p none false s h
  cases cf with
  | none => exact hnone
  | fence => exact absurd rfl hcf
  | business =>
    rcases driver_business p s with e | ⟨_, e⟩ <;> rw [e]
    · exact h
    · exact hnone

/-- OPEN FINDING C06-fence-driver-commits-on-two-connections, as a machine-checked witness: when the fence commit
    of a first try fails, the try is durable and there is no record (the invariant is broken, "record and effect
    commit or roll back together" does not hold on this path) - and the delivery the coordinator repeats applies
    the try a second time -/
theorem C06_driver_fence_commit_failure_is_not_atomic :
    deliverDriver .prepare .fence {} = ({ tries := 1 }, .refused) ∧
    ¬ Inv (deliverDriver .prepare .fence {}).1 ∧
    (deliverDriver .prepare .none (deliverDriver .prepare .fence {}).1).1.tries = 2 := by
  exact ⟨by decide, fun h => (by decide : (deliverDriver .prepare .fence {}).1 ∉ Race.states) (inv_iff_mem.1 h), by decide⟩

end driver

/-! Non-vacuity -/
example : (Fence.get (run [{ branch := 2, phase := .rollback }, { branch := 2, phase := .prepare },
                      { branch := 1, phase := .prepare, fault := some 3 }, { branch := 1, phase := .prepare },
                      { branch := 1, phase := .commit }, { branch := 1, phase := .rollback }]) 1)
    = { row := some .committed, tries := 1, confirms := 1, cancels := 0 } := by decide

end Seata.Props.C06
