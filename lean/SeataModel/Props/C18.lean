/-
  C18 — captured images equal the rows the statement actually changed.

  `stmtPhase1` (AT/Phase1.lean) is what the executors record for one statement; the theorems relate
  its images to the table just before (`t`) and just after (`t'`) the statement.
-/
import SeataModel.Lemmas.Rows
namespace Seata.Props.C18
open Seata.DB Seata.AT Seata.Lemmas.Store

/-- the before image of an UPDATE is the projection (on the tracked columns) of exactly the rows the
    WHERE clause selects, as they are before the statement; its lock keys are those rows' keys -/
theorem C18_update_before (sc : Schema) (cfg : Cfg) (t : Table) (args : Args) (sets : List (Nat × SetE)) (w : Cond)
    (t' : Table) (item : Item) (keys : List Key)
    (h : stmtPhase1 sc cfg t args (.update sets w) = .ok (t', item, keys)) :
    item.before = (t.filter fun r => matches_ r args w).map (project sc (updateCols sc cfg sets)) ∧
    keys = (t.filter fun r => matches_ r args w).map (keyOf sc) ∧ item.kind = .update := by
  replace h := (stmtPhase1_update_ok h).2
  simp only [updatePhase1, apply] at h
  split at h
  · cases h
  · cases h; exact ⟨rfl, rfl, rfl⟩

/-- DELETE: all columns of exactly the selected rows, no after image -/
theorem C18_delete_images (sc : Schema) (cfg : Cfg) (t : Table) (args : Args) (w : Cond)
    (t' : Table) (item : Item) (keys : List Key)
    (h : stmtPhase1 sc cfg t args (.delete w) = .ok (t', item, keys)) :
    item.before = (t.filter fun r => matches_ r args w).map (project sc (allCols sc)) ∧ item.after = [] ∧
    keys = (t.filter fun r => matches_ r args w).map (keyOf sc) ∧ item.kind = .delete := by
  cases h; exact ⟨rfl, rfl, rfl, rfl⟩

/-- INSERT: no before image, all columns of exactly the new rows -/
theorem C18_insert_images (sc : Schema) (cfg : Cfg) (t : Table) (args : Args) (rows : List (List Expr))
    (t' : Table) (item : Item) (keys : List Key)
    (h : stmtPhase1 sc cfg t args (.insert rows) = .ok (t', item, keys)) :
    item.before = [] ∧
    item.after = (rows.map fun es => es.map (evalE [] args)).map (project sc (allCols sc)) ∧
    keys = (rows.map fun es => es.map (evalE [] args)).map (keyOf sc) ∧ item.kind = .insert := by
  simp only [stmtPhase1] at h
  split at h
  · cases h
  · cases h; exact ⟨rfl, rfl, rfl, rfl⟩

/-- UPDATE that assigns no key column, on a table with unique keys: the statement succeeds; the new
    table is the old one with the SET clauses applied to exactly the selected rows; the after image is
    the projection of exactly those rows as they are after the statement, in the same order as the
    before image; every other row is untouched and absent from both images. -/
theorem C18_update_after (sc : Schema) (cfg : Cfg) (t : Table) (args : Args) (sets : List (Nat × SetE)) (w : Cond)
    (hu : PkUnique sc t) (hs : ∀ p ∈ sets, p.1 ∉ sc.pk) :
    ∃ item keys,
      stmtPhase1 sc cfg t args (.update sets w) =
        .ok (t.map (fun r => if matches_ r args w then applySets args sets r else r), item, keys) ∧
      item.before = (t.filter fun r => matches_ r args w).map (project sc (updateCols sc cfg sets)) ∧
      item.after = ((t.filter fun r => matches_ r args w).map (applySets args sets)).map
        (project sc (updateCols sc cfg sets)) := by
  have hkey : ∀ r ∈ t, keyOf sc (if matches_ r args w then applySets args sets r else r) = keyOf sc r := by
    intro r _; split
    · exact applySets_keyOf sc args sets r hs
    · rfl
  rw [stmtPhase1_update_of_noKey (namesKey_false_of hs)]
  simp only [updatePhase1, apply]
  rw [after_image _ hkey hu,
    List.map_congr_left (g := applySets args sets) fun r hr => if_pos (List.mem_filter.1 hr).2]
  simp

/-- columns recorded for an UPDATE: every column, or — with only-care-update-columns — the assigned
    columns and the key columns -/
theorem C18_update_columns (sc : Schema) (cfg : Cfg) (sets : List (Nat × SetE)) (r : Row) :
    (project sc (updateCols sc cfg sets) r).cells.map (·.1) =
      if cfg.onlyCare then sets.map (·.1) ++ sc.pk else List.range sc.ncols := by
  simp only [project, updateCols, allCols, List.map_map]
  split <;> simp [Function.comp_def]

/-- INSERT on a table with unique keys succeeds exactly when no new key exists yet (nor twice among
    the new rows); the new rows are appended, nothing else changes -/
theorem C18_insert_table (sc : Schema) (cfg : Cfg) (t : Table) (args : Args) (rows : List (List Expr))
    (t' : Table) (item : Item) (keys : List Key) (hu : PkUnique sc t)
    (h : stmtPhase1 sc cfg t args (.insert rows) = .ok (t', item, keys)) :
    t' = t ++ rows.map (fun es => es.map (evalE [] args)) ∧ PkUnique sc t' := by
  simp only [stmtPhase1, apply] at h
  split at h
  · cases h
  · rename_i t1 n hap
    split at hap
    · rename_i t2 hgo
      cases hap; cases h
      obtain ⟨rfl, hu'⟩ := apply_go_some sc _ t _ hgo hu
      exact ⟨rfl, hu'⟩
    · cases hap

/-- DELETE removes exactly the selected rows -/
theorem C18_delete_table (sc : Schema) (cfg : Cfg) (t : Table) (args : Args) (w : Cond)
    (t' : Table) (item : Item) (keys : List Key)
    (h : stmtPhase1 sc cfg t args (.delete w) = .ok (t', item, keys)) :
    t' = t.filter (fun r => !matches_ r args w) := by
  cases h; rfl

/-- INSERT … ON DUPLICATE KEY UPDATE: the before image is the projection (all columns) of exactly the
    stored rows whose key is among the statement's keys; with none of them the item is an INSERT item
    with an empty before image, otherwise an UPDATE item whose after image holds the same keys (the rows
    the same statement inserted are recorded by `extraItems` as an INSERT item of their own); the lock
    keys are the keys of all rows stored under the statement's keys afterwards -/
theorem C18_upsert_images (sc : Schema) (cfg : Cfg) (t : Table) (args : Args) (rows : List (List Expr))
    (asg : List (Nat × UpSrc)) (t' : Table) (item : Item) (keys : List Key)
    (h : stmtPhase1 sc cfg t args (.upsert rows asg) = .ok (t', item, keys)) :
    let newKeys := (rows.map fun es => es.map (evalE [] args)).map (keyOf sc)
    let hit := t.filter fun r => newKeys.contains (keyOf sc r)
    keys = (t'.filter fun r => newKeys.contains (keyOf sc r)).map (keyOf sc) ∧
    (hit = [] → item.kind = .insert ∧ item.before = []) ∧
    (hit ≠ [] → item.kind = .update ∧ item.before = hit.map (project sc (allCols sc)) ∧
      item.after = ((t'.filter fun r => newKeys.contains (keyOf sc r)).filter
        fun r => (hit.map (keyOf sc)).contains (keyOf sc r)).map (project sc (allCols sc))) := by
  intro newKeys hit
  simp only [stmtPhase1, apply] at h
  split at h
  · cases h
  · cases h
    refine ⟨rfl, fun hh => ?_, fun hh => ?_⟩
    · rw [show (t.filter fun r => newKeys.contains (keyOf sc r)) = [] from hh]; exact ⟨rfl, rfl⟩
    · cases hf : hit with
      | nil => exact absurd hf hh
      | cons a l => rw [show (t.filter fun r => newKeys.contains (keyOf sc r)) = a :: l from hf]; exact ⟨rfl, rfl, rfl⟩

/-- **key-changing statements are rejected**: every UPDATE whose SET list names a key column fails
    with `pkChanged`, whatever the table, and nothing is recorded -/
theorem C18_key_update_rejected (sc : Schema) (cfg : Cfg) (t : Table) (args : Args) (sets : List (Nat × SetE)) (w : Cond)
    (h : ∃ p ∈ sets, p.1 ∈ sc.pk) : stmtPhase1 sc cfg t args (.update sets w) = .error .pkChanged := by
  obtain ⟨p, hp, hk⟩ := h
  have : namesKey sc sets = true := by
    simp only [namesKey, List.any_eq_true]
    exact ⟨p, hp, by simpa using hk⟩
  simp [stmtPhase1, this]

/-- the same for INSERT … ON DUPLICATE KEY UPDATE: a clause that names a key column is rejected before the
    statement runs, whatever the table and the rows -/
theorem C18_upsert_key_update_rejected (sc : Schema) (cfg : Cfg) (t : Table) (args : Args)
    (rows : List (List Expr)) (asg : List (Nat × UpSrc))
    (h : ∃ p ∈ asg, p.1 ∈ sc.pk) : stmtPhase1 sc cfg t args (.upsert rows asg) = .error .pkChanged := by
  obtain ⟨p, hp, hk⟩ := h
  have : (asg.any fun a => sc.pk.contains a.1) = true := by
    simp only [List.any_eq_true]
    exact ⟨p, hp, by simpa using hk⟩
  simp only [stmtPhase1]
  rw [if_pos this]

/-! ### non-vacuity -/

example : ∃ item keys, stmtPhase1 { ncols := 2, pk := [0] } ⟨true, true⟩ [[.int 1, .int 5], [.int 2, .int 6]] [.int 2]
    (.update [(1, .plus 1 (.lit (.int 1)))] (.cmp .eq (.col 0) (.par 0))) = .ok ([[.int 1, .int 5], [.int 2, .int 7]], item, keys) ∧
    item.before = [⟨[.int 2], [(1, .int 6), (0, .int 2)]⟩] ∧ item.after = [⟨[.int 2], [(1, .int 7), (0, .int 2)]⟩] :=
  ⟨_, _, rfl, rfl, rfl⟩

/-- an UPDATE that names a key column is rejected before it runs -/
example : stmtPhase1 { ncols := 2, pk := [0] } ⟨true, false⟩ [[.int 1, .int 5]] []
    (.update [(0, .val (.lit (.int 9)))] .tt) = .error .pkChanged := rfl

example : stmtPhase1 { ncols := 2, pk := [0] } ⟨true, false⟩ [[.int 1, .int 5]] []
    (.upsert [[.lit (.int 1), .lit (.int 7)]] [(1, .values), (0, .values)]) = .error .pkChanged := rfl

end Seata.Props.C18
