/-
  C15 — every coordinator phase-two request gets one correctly addressed, truthful reply.
-/
import SeataModel.Remoting.Dispatch
namespace Seata.Props.C15
open Seata.Dispatch

/-- routed by branch type: the reply is determined by the manager registered for the REQUEST's branch
    type alone — two registries that agree on that one type give the same replies -/
theorem C15_routed (reg reg' : Registry) (r : Request)
    (h1 : reg.has r.branchType = reg'.has r.branchType)
    (h2 : reg.answer r.branchType r = reg'.answer r.branchType r) :
    process reg r = process reg' r := by
  simp [process, h1, h2]

/-- when the manager returns a status there is exactly one response, carrying the request's message
    id, xid, branch id, the matching response kind and precisely that status -/
theorem C15_echo (reg : Registry) (r : Request) (s : Nat)
    (hh : reg.has r.branchType = true) (ha : reg.answer r.branchType r = .status s) :
    process reg r =
      [{ kind := r.kind, msgId := r.msgId, xid := r.xid, branchId := r.branchId, status := s, session := r.session }] := by
  simp [process, hh, ha]

/-- when the manager fails (or none is registered) no response at all is sent — in particular none
    with a success status -/
theorem C15_never_success_on_failure (reg : Registry) (r : Request)
    (h : reg.has r.branchType = false ∨ reg.answer r.branchType r = .error) :
    process reg r = [] := by
  rcases h with h | h <;> simp [process, h]

theorem process_cases (reg : Registry) (r : Request) :
    process reg r = [] ∨ ∃ s, process reg r =
      [{ kind := r.kind, msgId := r.msgId, xid := r.xid, branchId := r.branchId, status := s, session := r.session }] := by
  unfold process
  split
  · split
    · exact .inr ⟨_, rfl⟩
    · exact .inl rfl
  · exact .inl rfl

/-- the reply goes to the coordinator that asked: whatever the xid says and whichever sessions are open, a
    response is written to the session its request arrived on -/
theorem C15_answered_where_asked (reg : Registry) (r : Request) :
    ∀ resp ∈ process reg r, resp.session = r.session := by
  rcases process_cases reg r with h | ⟨s, h⟩ <;> simp [h]

/-- at most one response per request, and every response answers ITS request -/
theorem C15_at_most_one (reg : Registry) (r : Request) :
    (process reg r).length ≤ 1 ∧ ∀ x ∈ process reg r, x.msgId = r.msgId ∧ x.xid = r.xid ∧ x.branchId = r.branchId ∧ x.kind = r.kind := by
  rcases process_cases reg r with h | ⟨s, h⟩ <;> simp [h]

/-- requests for different branches do not influence each other: the responses to a stream are the
    per-request responses, whatever else is in the stream … -/
theorem C15_independent (reg : Registry) (a b : List Request) :
    processAll reg (a ++ b) = processAll reg a ++ processAll reg b := by
  simp [processAll]

/-- … and in whatever order the requests are processed: the set of responses is the same -/
theorem C15_order_irrelevant (reg : Registry) (rs rs' : List Request) (h : rs.Perm rs') :
    (processAll reg rs).Perm (processAll reg rs') := by
  unfold processAll
  exact List.Perm.flatMap_right (process reg) h

/-! Non-vacuity -/
def sampleReg : Registry :=
  { has := fun t => t == 0 || t == 1 || t == 3,
    answer := fun t r => if t == 1 && r.branchId == 7 then .error else .status (if r.kind == .commit then 8 else 10) }

example : processAll sampleReg
    [{ kind := .commit, msgId := 5, xid := "x", branchId := 1, branchType := 0, resource := "r" },
     { kind := .rollback, msgId := 6, xid := "x", branchId := 7, branchType := 1, resource := "a" },
     { kind := .rollback, msgId := 7, xid := "y", branchId := 2, branchType := 2, resource := "s" }]
    = [{ kind := .commit, msgId := 5, xid := "x", branchId := 1, status := 8 }] := by decide

end Seata.Props.C15
