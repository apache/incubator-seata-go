/-
  C07 — propagation modes and transaction context are honoured across nesting and RPC.
-/
import SeataModel.TM.Propagation
namespace Seata.Props.C07
open Seata.TM.Prop

/-- the code's `begin`, on the cleared variable, does what the documented decision table `decide` says -/
theorem beginAsCoded_clearConf (m : Mode) (id : Nat) (v : Var) (next : Nat) :
    beginAsCoded m id (clearConf v) next =
      match Seata.TM.Prop.decide m v.xid.isSome with
      | .refuse => .refuse
      | .join => .cont (joinVar v id) false
      | .noTx => .cont (noTxVar m v) false
      | .newTx => .cont (newVar next id) true := by
  cases m <;> cases hx : v.xid <;>
    simp [beginAsCoded, clearConf, Seata.TM.Prop.decide, joinVar, noTxVar, newVar, hx]

theorem noTxVar_xid {m : Mode} {v : Var} (h : Seata.TM.Prop.decide m v.xid.isSome = .noTx) :
    (noTxVar m v).xid = none := by
  cases m <;> cases hx : v.xid <;> simp_all [Seata.TM.Prop.decide, noTxVar, clearConf]

/-- the variable-threading implementation refines the lexically scoped specification:
    same events, same xid counter, and the caller's variable is intact afterwards — for EVERY program
    (any depth, any number of siblings), both sharings, any starting context. -/
theorem run_eq_spec (sh : Sharing) (p : Prog) (st : St) :
    run sh p st = { var := st.var, next := (spec sh p st.var st.next).2,
                    trace := st.trace ++ (spec sh p st.var st.next).1 } := by
  induction p generalizing st with
  | done => simp [run, spec]
  | scope m ok id body next ihb ihn =>
    simp only [run, spec, beginAsCoded_clearConf]
    -- fold `run`'s own `match sh` into `seenVar`; a `match` written here would be another matcher and not rewrite
    rw [← seenVar.eq_def sh st.var]
    -- a joined or absent transaction is not ended by this scope: `secondPhase` sends nothing
    cases hd : Seata.TM.Prop.decide m (seenVar sh st.var).xid.isSome
    case noTx => simp [ihb, ihn, secondPhase, noTxVar_xid hd]
    all_goals simp [ihb, ihn, secondPhase, joinVar, newVar]

/-- C07: for every scope tree / sequence, every propagation mode and outcome, on a shared context
    (local calls) and on fresh contexts carrying the xid (remote calls), the requests sent and the
    xids seen are those of the documented semantics. -/
theorem C07_refines (sh : Sharing) (p : Prog) (v : Var) (n : Nat) :
    (run sh p { var := v, next := n, trace := [] }).trace = (spec sh p v n).1 := by
  rw [run_eq_spec]; simp

/-- when a scope (with everything nested in it and after it) has ended, the enclosing transaction's
    xid, role and name are exactly what they were -/
theorem C07_outer_intact (sh : Sharing) (p : Prog) (st : St) : (run sh p st).var = st.var := by
  rw [run_eq_spec]

def endsOf : List Ev → List Nat
  | [] => []
  | .commit x :: r => x :: endsOf r
  | .rollback x :: r => x :: endsOf r
  | _ :: r => endsOf r

theorem endsOf_append (a b : List Ev) : endsOf (a ++ b) = endsOf a ++ endsOf b := by
  induction a with
  | nil => rfl
  | cons e r ih => cases e <;> simp [endsOf, ih]

theorem bound_append {a b : List Nat} {n k m : Nat} (ha : n ≤ k ∧ ∀ x ∈ a, n ≤ x ∧ x < k)
    (hb : k ≤ m ∧ ∀ x ∈ b, k ≤ x ∧ x < m) : n ≤ m ∧ ∀ x ∈ a ++ b, n ≤ x ∧ x < m := by
  refine ⟨Nat.le_trans ha.1 hb.1, fun x hx => ?_⟩
  rcases List.mem_append.1 hx with h | h
  · have := ha.2 x h; omega
  · have := hb.2 x h; omega

/-- only transactions begun inside a program are ever ended by it: every commit/rollback carries an
    xid handed out after the program started, and the xid counter only grows -/
theorem ends_fresh (sh : Sharing) (p : Prog) (enc : Var) (n : Nat) :
    n ≤ (spec sh p enc n).2 ∧ ∀ x ∈ endsOf (spec sh p enc n).1, n ≤ x ∧ x < (spec sh p enc n).2 := by
  induction p generalizing enc n with
  | done => simp [spec, endsOf]
  | scope m ok id body rest ihb ihr =>
    simp only [spec]
    split <;> simp only [endsOf_append, endsOf, List.nil_append, List.append_nil]
    · exact ihr enc n
    · exact bound_append (ihb _ n) (ihr enc _)
    · exact bound_append (ihb _ n) (ihr enc _)
    · -- a new transaction: the body's, then its own xid `n`, then the later siblings'
      have hb := ihb (newVar n id) (n + 1)
      have hr := ihr enc (spec sh body (newVar n id) (n + 1)).2
      have : endsOf [if ok = true then Ev.commit n else Ev.rollback n] = [n] := by cases ok <;> rfl
      refine ⟨by omega, fun x hx => ?_⟩
      simp only [this, List.mem_append, List.mem_singleton] at hx
      rcases hx with (hx | rfl) | hx
      · have := hb.2 x hx; omega
      · omega
      · have := hr.2 x hx; omega

theorem never_ends (sh : Sharing) (p : Prog) (x n : Nat) (hx : x < n) (v : Var) :
    x ∉ endsOf (run sh p { var := v, next := n, trace := [] }).trace := by
  rw [C07_refines]
  intro h
  have := (ends_fresh sh p v n).2 x h
  omega

/-- An xid carried into a callee (fresh context) makes it a participant that NEVER ends the caller's
    transaction: whatever the callee program is, no commit or rollback of the carried xid is sent. -/
theorem C07_callee_never_ends (p : Prog) (x n : Nat) (hx : x < n) (v : Var) :
    x ∉ endsOf (run .fresh p { var := v, next := n, trace := [] }).trace :=
  never_ends .fresh p x n hx v

/-- the same on a shared context for everything nested inside an enclosing transaction: nested scopes
    never end the enclosing xid (only its launcher does, after they have all returned) -/
theorem C07_nested_never_ends (p : Prog) (x n : Nat) (hx : x < n) (v : Var) :
    x ∉ endsOf (run .shared p { var := v, next := n, trace := [] }).trace :=
  never_ends .shared p x n hx v

/-- the mode table: what a scope decides from its mode and whether a transaction is present -/
theorem C07_mode_table :
    decide .required true = .join ∧ decide .required false = .newTx ∧
    decide .supports true = .join ∧ decide .supports false = .noTx ∧
    decide .mandatory true = .join ∧ decide .mandatory false = .refuse ∧
    decide .requiresNew true = .newTx ∧ decide .requiresNew false = .newTx ∧
    decide .notSupported true = .noTx ∧ decide .notSupported false = .noTx ∧
    decide .never true = .refuse ∧ decide .never false = .noTx := by
  decide

/-- Required ⊃ RequiresNew on a shared context: the inner transaction is begun and ended on its own,
    and the outer one still commits its own xid afterwards. -/
theorem C07_example_requiresNew :
    (run .shared (.scope .required true 1 (.scope .requiresNew false 2 .done .done) .done) { var := {}, next := 0, trace := [] }).trace
      = [.begin 1 0, .enter 1 (some 0), .begin 2 1, .enter 2 (some 1), .rollback 1,
         .exit 2 { xid := some 0, role := .launcher, name := some 1 }, .commit 0, .exit 1 {}] := by
  decide

/-! Counter-examples against the shape at c3b0bd5 (shared context, nothing restored). -/

/-- Required ⊃ Required: the outer scope, demoted to participant by the inner one, never commits. -/
theorem C07_asCoded_outer_never_commits :
    endsOf (runAsCoded_c3b0bd5 (.scope .required true 1 (.scope .required true 2 .done .done) .done)
      { var := {}, next := 0, trace := [] }).trace = [] := by decide

/-- Required ⊃ RequiresNew: the inner xid is committed twice, the outer xid never. -/
theorem C07_asCoded_inner_committed_twice :
    endsOf (runAsCoded_c3b0bd5 (.scope .required true 1 (.scope .requiresNew true 2 .done .done) .done)
      { var := {}, next := 0, trace := [] }).trace = [1, 1] := by decide

end Seata.Props.C07
