/-
  C14 — concurrent requests are answered by their own responses; stragglers do no harm.
-/
import SeataModel.Remoting.Futures
import SeataModel.Lemmas.Assoc
namespace Seata.Props.C14
open Seata.Futures

theorem lookup_mem {t : List (Nat × Nat)} {id c : Nat} (h : lookup t id = some c) : (id, c) ∈ t := by
  obtain ⟨p, hf, rfl⟩ := Option.map_eq_some_iff.1 h
  have := List.find?_some hf
  simp only [beq_iff_eq] at this
  exact this ▸ List.mem_of_find?_eq_some hf

theorem lookup_cons (p : Nat × Nat) (r : List (Nat × Nat)) (id : Nat) :
    lookup (p :: r) id = if p.1 = id then some p.2 else lookup r id := by
  unfold lookup
  by_cases h : p.1 = id <;> simp [h]

theorem erase_cons (p : Nat × Nat) (r : List (Nat × Nat)) (id : Nat) :
    erase (p :: r) id = if p.1 = id then erase r id else p :: erase r id := by
  unfold erase
  by_cases h : p.1 = id <;> simp [h]

open Seata.Lemmas.Assoc in
theorem lookup_erase (t : List (Nat × Nat)) (id' id : Nat) :
    lookup (erase t id') id = if id = id' then none else lookup t id := by
  unfold lookup erase
  rw [find?_filter_ne]
  by_cases h : id = id' <;> simp [h]

/-- table entries and reply results pair a request id with a caller that `S` knows to have sent it -/
def Inv (S : Nat → Nat → Prop) (s : State) : Prop :=
  (∀ p ∈ s.table, S p.2 p.1) ∧ (∀ c id, (c, Result.reply id) ∈ s.results → S c id)

theorem step_inv {S : Nat → Nat → Prop} {s : State} (h : Inv S s) (e : Ev)
    (he : ∀ c id, e = .send c id true → S c id) : Inv S (step s e) := by
  obtain ⟨h1, h2⟩ := h
  have herase : ∀ id, ∀ p ∈ erase s.table id, S p.2 p.1 := fun id p hp => h1 p (List.mem_filter.1 hp).1
  cases e with
  | send c id ok =>
    cases ok
    · exact ⟨h1, fun c' id' h => h2 c' id' (by simpa [step] using h)⟩
    · refine ⟨fun p hp => ?_, h2⟩
      rcases List.mem_cons.1 hp with rfl | hp
      · exact he _ _ rfl
      · exact herase _ p hp
  | reply id =>
    simp only [step]
    split
    · next c hl =>
      refine ⟨herase _, fun c' id' h => ?_⟩
      rcases List.mem_cons.1 h with h | h
      · cases h; exact h1 _ (lookup_mem hl)
      · exact h2 _ _ h
    · exact ⟨h1, h2⟩
  | timeout c =>
    simp only [step]
    split
    · exact ⟨herase _, fun c' id' h => h2 c' id' (by simpa using h)⟩
    · exact ⟨h1, h2⟩
  | respond id => exact ⟨h1, h2⟩
  | heartbeat => exact ⟨h1, h2⟩
  | close => exact ⟨h1, h2⟩

/-- Each caller only ever receives a response that carries the id of a request it sent itself —
    whatever the order, delay, duplication or loss of replies, timeouts and connection losses. -/
theorem C14_own_reply (evs : List Ev) (c id : Nat) (h : (c, Result.reply id) ∈ (run evs).results) :
    Ev.send c id true ∈ evs := by
  -- the run keeps `Inv` for "sent somewhere in `evs`": it holds of the empty state, and every step keeps it
  have inv : Inv (fun c id => Ev.send c id true ∈ evs) (run evs) :=
    List.foldlRecOn evs step (motive := Inv _) ⟨nofun, nofun⟩ fun _ hs e he => step_inv hs e fun _ _ h => h ▸ he
  exact inv.2 c id h

/-- a reply that arrives after its caller gave up, or twice, changes nothing and parks nobody -/
theorem C14_stragglers_harmless (s : State) (id : Nat) (h : lookup s.table id = none) :
    step s (.reply id) = s := by
  simp [step, h]

theorem step_blocked (s : State) (e : Ev) : (step s e).blocked = s.blocked := by
  cases e with
  | send c id ok => cases ok <;> rfl
  | reply id => simp only [step]; split <;> rfl
  | timeout c => simp only [step]; split <;> rfl
  | _ => rfl

/-- response delivery never blocks: the count of parked processor goroutines stays 0 -/
theorem C14_never_blocks (evs : List Ev) : (run evs).blocked = 0 :=
  List.foldlRecOn (motive := fun s => s.blocked = 0) evs step rfl fun s hs e _ => (step_blocked s e).trans hs

/-- answering or timing out a request removes its entry: completed and abandoned requests leave no
    bookkeeping behind -/
theorem C14_reply_removes (s : State) (id c : Nat) (h : lookup s.table id = some c) :
    lookup (step s (.reply id)).table id = none := by
  simp [step, h, lookup_erase]

theorem C14_timeout_removes (s : State) (id c : Nat) (h : idOf s.table c = some id) :
    lookup (step s (.timeout c)).table id = none := by
  simp [step, h, lookup_erase]

/-- only a send ever adds an entry: once a request has been answered or has timed out its id stays
    out of the table (no residue) unless the same id is sent again -/
theorem C14_only_send_adds (s : State) (e : Ev) (id c : Nat) (h : lookup (step s e).table id = some c) :
    lookup s.table id = some c ∨ e = .send c id true := by
  have herase : ∀ id', lookup (erase s.table id') id = some c → lookup s.table id = some c := by
    intro id' h; rw [lookup_erase] at h; split at h
    · cases h
    · exact h
  cases e with
  | send c' id' ok =>
    cases ok
    · exact .inl h
    · simp only [step, lookup_cons] at h
      split at h
      · next hid => cases h; exact .inr (by rw [hid])
      · exact .inl (herase _ h)
  | reply id' =>
    simp only [step] at h
    split at h
    · exact .inl (herase _ h)
    · exact .inl h
  | timeout c' =>
    simp only [step] at h
    split at h
    · exact .inl (herase _ h)
    · exact .inl h
  | _ => exact .inl h

/-- SendAsyncResponse, heart-beats and connection loss leave no bookkeeping behind -/
theorem C14_no_bookkeeping_for_responses (s : State) (id : Nat) :
    step s (.respond id) = s ∧ step s .heartbeat = s ∧ step s .close = s := ⟨rfl, rfl, rfl⟩

/-- no residue, on one complete history: three callers send; two are answered and one times out, in another order
    than they sent; then a late reply, a duplicate reply, a phase-two response, a heart-beat and the loss of the
    connection: the table is empty.  (For every history the same is said entry by entry by `C14_reply_removes`,
    `C14_timeout_removes` and `C14_only_send_adds`.) -/
theorem C14_no_residue_example :
    (run [.send 1 101 true, .send 2 102 true, .send 3 103 true, .reply 102, .timeout 1, .reply 103,
          .reply 101, .reply 102, .respond 9, .heartbeat, .close]).table = [] := by decide

/-! Counter-examples against the shape at c3b0bd5. -/
theorem C14_asCoded_late_reply_blocks :
    (runAsCoded_c3b0bd5 [.send 1 101 true, .timeout 1, .reply 101]).blocked = 1 := by decide
theorem C14_asCoded_timeout_leaves_future :
    (runAsCoded_c3b0bd5 [.send 1 101 true, .timeout 1]).table = [(101, 1)] := by decide
theorem C14_asCoded_response_leaves_future :
    (runAsCoded_c3b0bd5 [.respond 4242]).table = [(4242, 0)] := by decide

/-! Non-vacuity -/
example : (run [.send 1 101 true, .send 2 102 true, .reply 102, .reply 101]).results
    = [(1, .reply 101), (2, .reply 102)] := by decide

end Seata.Props.C14
