/-
  C04 — each global transaction gets exactly one truthful decision from its initiator.
-/
import SeataModel.TM.Executor
namespace Seata.Props.C04
open Seata.TM

theorem phase2_nil_fst (retries : Nat) (c : Option Nat) (i : Nat) : (phase2 retries c i []).1 = 0 := by
  unfold phase2
  split
  · rfl
  · split <;> rfl

theorem phase2_bound (retries : Nat) (c : Option Nat) (i : Nat) (script : List Reply) :
    (phase2 retries c i script).1 ≤ attempts retries - i := by
  -- the loop's own case analysis: cancelled, exhausted, script at its end, answered `ok`, answered `failed`,
  -- transport failure (with the hypothesis for the rest of the script)
  fun_induction phase2 retries c i script <;> simp +zetaDelta <;> omega

theorem phase2_attempts (retries : Nat) (c : Option Nat) (i : Nat) (script : List Reply) :
    (phase2 retries c i script).1 ≤ (script.takeWhile (· = .transport)).length + 1 := by
  fun_induction phase2 retries c i script <;> simp <;> omega

theorem phase2_answered (retries : Nat) (c : Option Nat) (i : Nat) (script : List Reply) :
    ((phase2 retries c i script).2 = .acked → (script.dropWhile (· = .transport)).head? = some .ok) ∧
    ((phase2 retries c i script).2 = .refused → (script.dropWhile (· = .transport)).head? = some .failed) := by
  fun_induction phase2 retries c i script <;> simp_all +zetaDelta

theorem attempts_pos (retries : Nat) : 0 < attempts retries := by unfold attempts; split <;> omega

theorem phase2_cancelled {c : Option Nat} {i : Nat} (h : cancelled c i = true) (retries : Nat) (script : List Reply) :
    phase2 retries c i script = (0, .cancelled) := by
  rw [phase2.eq_def]; exact if_pos h

theorem phase2_first (retries : Nat) {c : Option Nat} (hc : cancelled c 0 = false) (r : Reply) (script : List Reply) :
    phase2 retries c 0 (r :: script) =
      match r with
      | .ok => (1, .acked)
      | .failed => (1, .refused)
      | .transport => ((phase2 retries c 1 script).1 + 1, (phase2 retries c 1 script).2) := by
  rw [phase2.eq_def]
  simp only [hc, Bool.false_eq_true, if_false, Nat.not_le.2 (attempts_pos retries)]
  cases r <;> rfl

theorem requests_eq (retries : Nat) (b : Reply) (cb : Outcome) (script : List Reply) (c : Option Nat) :
    (withGlobalTx retries b cb script c).1 =
      .begin :: List.replicate (if b = .ok then (phase2 retries c 0 script).1 else 0) (decision cb) := by
  cases b <;> rfl

theorem result_eq (retries : Nat) (b : Reply) (cb : Outcome) (script : List Reply) (c : Option Nat) :
    (withGlobalTx retries b cb script c).2 =
      if b = .ok ∧ cb = .ok ∧ (phase2 retries c 0 script).2 = .acked then .ok else .err := by
  cases b <;> simp [withGlobalTx]

/-- Exactly one decision: after `begin`, only commits or only rollbacks are ever sent — never both. -/
theorem C04_one_decision (retries : Nat) (b : Reply) (cb : Outcome) (script : List Reply) (c : Option Nat) :
    ∃ n, (withGlobalTx retries b cb script c).1 = .begin :: List.replicate n (decision cb) :=
  ⟨_, requests_eq retries b cb script c⟩

/-- commit is requested only if the callback returned nil; rollback only if it did not -/
theorem C04_commit_iff (retries : Nat) (b : Reply) (cb : Outcome) (script : List Reply) (c : Option Nat) :
    (.commit ∈ (withGlobalTx retries b cb script c).1 → cb = .ok) ∧
    (.rollback ∈ (withGlobalTx retries b cb script c).1 → cb ≠ .ok) := by
  rw [requests_eq]
  by_cases hc : cb = .ok <;> simp [decision, hc]

/-- with an answering coordinator (the first attempt is allowed and the script is non-empty) the
    decision IS sent: commit iff the callback returned nil -/
theorem C04_decision_sent (retries : Nat) (cb : Outcome) (r : Reply) (script : List Reply) :
    decision cb ∈ (withGlobalTx retries .ok cb (r :: script) none).1 := by
  rw [requests_eq, if_pos rfl, phase2_first retries rfl]
  cases r <;> simp [List.replicate_succ]

/-- at most the configured number of attempts, for every setting of the retry count -/
theorem C04_retry_bound (retries : Nat) (b : Reply) (cb : Outcome) (script : List Reply) (c : Option Nat) :
    (withGlobalTx retries b cb script c).1.length ≤ 1 + attempts retries := by
  have := phase2_bound retries c 0 script
  rw [requests_eq]; simp only [List.length_cons, List.length_replicate]
  split <;> omega

/-- retry count 0: the decision is sent once and never repeated -/
theorem C04_retry_zero_once (b : Reply) (cb : Outcome) (script : List Reply) (c : Option Nat) :
    (withGlobalTx 0 b cb script c).1.length ≤ 2 := by
  have := C04_retry_bound 0 b cb script c
  simpa [attempts] using this

/-- before the repair a retry count of 0 bounded nothing: as many requests as the coordinator lets fail -/
theorem C04_before_fix_retry_zero_unbounded (n : Nat) :
    (phase2BeforeFix 0 none 0 (List.replicate n .transport ++ [.ok])).1 = n + 1 := by
  suffices h : ∀ i, (phase2BeforeFix 0 none i (List.replicate n .transport ++ [.ok])).1 = n + 1 from h 0
  induction n with
  | zero => intro i; unfold phase2BeforeFix; simp [cancelled]
  | succ n ih =>
    intro i
    rw [List.replicate_succ, List.cons_append]
    unfold phase2BeforeFix
    simp [cancelled, ih (i + 1)]

/-- an attempt is repeated only after a transport failure of the previous one -/
theorem C04_retry_only_on_transport (retries : Nat) (b : Reply) (cb : Outcome) (script : List Reply) (c : Option Nat) :
    (withGlobalTx retries b cb script c).1.length ≤ 2 + (script.takeWhile (· = .transport)).length := by
  have := phase2_attempts retries c 0 script
  rw [requests_eq]; simp only [List.length_cons, List.length_replicate]
  split <;> omega

/-- Truthful: nil is returned ONLY IF begin succeeded, the business returned nil (no error, no panic), the
    context was not cancelled before the second phase and the coordinator acknowledged the commit (the first
    reply that is not a transport failure is an acknowledgement). -/
theorem C04_truthful (retries : Nat) (b : Reply) (cb : Outcome) (script : List Reply) (c : Option Nat)
    (h : (withGlobalTx retries b cb script c).2 = .ok) :
    b = .ok ∧ cb = .ok ∧ (script.dropWhile (· = .transport)).head? = some .ok ∧ ¬ cancelled c 0 := by
  rw [result_eq] at h
  split at h
  · next hh =>
    refine ⟨hh.1, hh.2.1, (phase2_answered retries c 0 script).1 hh.2.2, fun hc => ?_⟩
    rw [phase2_cancelled hc] at hh
    cases hh.2.2
  · cases h

/-- a refused commit always surfaces -/
theorem C04_refusal_surfaces (retries : Nat) (cb : Outcome) (script : List Reply) (c : Option Nat)
    (h : (script.dropWhile (· = .transport)).head? = some .failed) :
    (withGlobalTx retries .ok cb script c).2 = .err := by
  rw [result_eq, if_neg]
  intro hh
  have := (phase2_answered retries c 0 script).1 hh.2.2
  rw [h] at this
  cases this

/-- what counts as an acknowledgement on the wire, for every result code and every status: the status says the
    commit is decided - and that only. In particular no status of the rollback family, and none of Begin, UnKnown,
    Finished (with which the coordinator answers for a transaction it no longer knows: committed, or rolled back
    after a timeout) -/
theorem C04_acknowledged_iff (rc : RC) (st : Nat) :
    acknowledged rc st = true ↔ commitFamily st = true := by
  unfold acknowledged; rfl

theorem C04_acknowledged_not_rolled_back (rc : RC) (st : Nat) (h : acknowledged rc st = true) :
    rollbackFamily st = false ∧ st ≠ 0 ∧ st ≠ 1 ∧ st ≠ 15 :=
  -- `h` says that `st` is one of the four statuses of the commit family: look at each
  (by decide : ∀ st ∈ [2, 3, 8, 9], rollbackFamily st = false ∧ st ≠ 0 ∧ st ≠ 1 ∧ st ≠ 15) st (of_decide_eq_true h)

/-- before the repair a commit answered "Success, Finished" - the coordinator's answer for a transaction it has
    rolled back after a timeout and forgotten - was an acknowledgement -/
theorem C04_before_fix_finished_is_acknowledged :
    acknowledgedBeforeFix .success 15 = true ∧ acknowledged .success 15 = false := by decide

/-- the two families are disjoint, so the order of the two tests in `commitRefusal` does not matter -/
theorem C04_families_disjoint (st : Nat) : ¬ (rollbackFamily st = true ∧ commitFamily st = true) :=
  fun ⟨h1, h2⟩ => (by decide : ∀ st ∈ [2, 3, 8, 9], rollbackFamily st ≠ true) st (of_decide_eq_true h2) h1

/-- end to end on the wire: nil only for an acknowledged reply, an error for every other one -/
theorem C04_wire_truthful (retries : Nat) (rc : RC) (st : Nat) :
    (withGlobalTx retries .ok .ok [replyOf rc st] none).2 = (if acknowledged rc st then .ok else .err) := by
  rw [result_eq, phase2_first retries rfl, replyOf]
  cases acknowledged rc st <;> simp

/-- the same for a rollback ("a failed second phase always surfaces to the caller"): the answer to a rollback
    request is an acknowledgement exactly when its status does not say the transaction is committed, committing
    or failed to roll back, and it says a rollback is under way or done, or the result code is Success -/
theorem C04_rollback_acknowledged_iff (rc : RC) (st : Nat) :
    rollbackAcknowledged rc st = true ↔ notRolledBack st = false ∧ (rollingBack st = true ∨ rc = .success) := by
  unfold rollbackAcknowledged
  cases hn : notRolledBack st <;> cases hr : rollingBack st <;> cases rc <;> simp

/-- a rollback answered "Committed" (the transaction the caller believes it is rolling back was committed) or
    "RollbackFailed" is never reported as done, whatever the result code -/
theorem C04_rollback_refusal_surfaces (rc : RC) (st : Nat) (h : notRolledBack st = true) :
    rollbackAcknowledged rc st = false := by
  unfold rollbackAcknowledged; simp [h]

theorem C04_rollback_families_disjoint (st : Nat) : ¬ (notRolledBack st = true ∧ rollingBack st = true) :=
  fun ⟨h1, h2⟩ => (by decide : ∀ st ∈ [4, 5, 6, 7, 11, 13], notRolledBack st ≠ true) st (of_decide_eq_true h2) h1

/-- before the repair a rollback the coordinator refused, or answered with "Committed", was a success -/
theorem C04_before_fix_refused_rollback_is_success :
    rollbackAcknowledgedBeforeFix .failed 9 = true ∧ rollbackAcknowledged .failed 9 = false := by decide

/-- before the repair a refused commit was reported as success (finding C04-refused-commit, closed) -/
theorem C04_before_fix_refused_commit_is_success :
    withGlobalTxBeforeFix 5 .ok .ok [.failed] none = ([.begin, .commit], .ok) := by decide

/-- never a crash -/
theorem C04_no_crash (retries : Nat) (b : Reply) (cb : Outcome) (script : List Reply) (c : Option Nat) :
    (withGlobalTx retries b cb script c).2 ≠ .crash := by
  rw [result_eq]
  split <;> nofun

/-! Machine-checked counter-examples against the shape at c3b0bd5 (what the `fix:` commits repair). -/
theorem C04_asCoded_panic_is_silent_success :
    (withGlobalTxAsCoded_c3b0bd5 5 .ok .panic [.ok] none) = ([.begin, .rollback], .ok) := by decide
theorem C04_asCoded_cancel_commit_unsent_success :
    (withGlobalTxAsCoded_c3b0bd5 5 .ok .ok [.ok] (some 0)) = ([.begin], .ok) := by decide
theorem C04_asCoded_cancel_rollback_crashes :
    (withGlobalTxAsCoded_c3b0bd5 5 .ok .err [.ok] (some 0)) = ([.begin], .crash) := by decide
theorem C04_asCoded_refused_commit_is_success :
    (withGlobalTxAsCoded_c3b0bd5 5 .ok .ok [.failed] none) = ([.begin, .commit], .ok) := by decide

/-! Non-vacuity -/
example : withGlobalTx 5 .ok .ok [.transport, .transport, .ok] none = ([.begin, .commit, .commit, .commit], .ok) := by decide
example : withGlobalTx 2 .ok .err [.transport, .transport, .ok] none = ([.begin, .rollback, .rollback], .err) := by decide
example : withGlobalTx 5 .ok .ok [.transport, .ok] (some 1) = ([.begin, .commit], .err) := by decide
example : withGlobalTx 5 .ok .ok [.transport, .failed] none = ([.begin, .commit, .commit], .err) := by decide
example : withGlobalTx 0 .ok .ok [.transport, .ok] none = ([.begin, .commit], .err) := by decide

end Seata.Props.C04
