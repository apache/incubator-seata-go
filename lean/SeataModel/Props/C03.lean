/-
  C03 — global lock keys cover every written row; locking reads consult the coordinator.

  The lock keys of a branch are the `lockKeys` of `localPhase1` (AT/Phase1.lean), sent with the
  registration before the local commit (C02).  `AT/Locks.lean` models the coordinator's grant rule
  and histories of several global transactions.
-/
import SeataModel.AT.SfuGap
import SeataModel.Props.C18
import SeataModel.Lemmas.Locks
import SeataModel.Lemmas.KeyText
namespace Seata.Props.C03
open Seata.DB Seata.AT Seata.AT.Locks Seata.Props.C01 Seata.Props.C18 Seata.Lemmas.Store Seata.Lemmas.Locks

/-- one statement: every key under which the table differs after the statement (row inserted,
    deleted, or changed) is among the statement's lock keys -/
theorem C03_keys_cover_stmt (sc : Schema) (cfg : Cfg) (t : Table) (args : Args) (s : Stmt)
    (t' : Table) (item : Item) (keys : List Key)
    (ht : WFTable sc t) (hs : WFStmt sc s)
    (h : stmtPhase1 sc cfg t args s = .ok (t', item, keys)) :
    ∀ k : Key, lookup sc t' k ≠ lookup sc t k → k ∈ keys := by
  intro k hne
  apply Classical.byContradiction
  intro hk
  exact hne ((stmtPhase1_effect cfg ht hs h).lookup hk)

/-- the lock keys of a local transaction are the keys of its statements, in order -/
theorem C03_keys_concat (sc : Schema) (cfg : Cfg) (t : Table) (s : Stmt) (args : Args) (rest : LocalTx)
    (t1 : Table) (item : Item) (keys : List Key) (t2 : Table) (b : Branch)
    (h1 : stmtPhase1 sc cfg t args s = .ok (t1, item, keys))
    (h2 : localPhase1 sc cfg t1 rest = .ok (t2, b)) :
    ∃ b', localPhase1 sc cfg t ((s, args) :: rest) = .ok (t2, b') ∧ b'.lockKeys = keys ++ b.lockKeys := by
  simp [localPhase1, h1, h2]

/-- a whole local transaction: every key under which the table differs across the local commit is
    among the lock keys sent with the registration -/
theorem C03_keys_cover_local (sc : Schema) (cfg : Cfg) (t : Table) (ltx : LocalTx) (t' : Table) (b : Branch)
    (ht : WFTable sc t) (hs : ∀ p ∈ ltx, WFStmt sc p.1)
    (h : localPhase1 sc cfg t ltx = .ok (t', b)) :
    ∀ k : Key, lookup sc t' k ≠ lookup sc t k → k ∈ b.lockKeys := by
  intro k hne
  apply Classical.byContradiction
  intro hk
  exact hne (local_lookup_unchanged cfg ht hs h k hk)

/-- the key of a row does not depend on the statement form that touched it: an INSERT of row `r`,
    and an UPDATE or DELETE selecting `r`, all record `keyOf sc r` -/
theorem C03_key_canonical (sc : Schema) (cfg : Cfg) (t : Table) (args : Args) (r : Row) :
    (∀ w t' item keys, stmtPhase1 sc cfg t args (.delete w) = .ok (t', item, keys) →
        r ∈ t → matches_ r args w = true → keyOf sc r ∈ keys) ∧
    (∀ sets w t' item keys, stmtPhase1 sc cfg t args (.update sets w) = .ok (t', item, keys) →
        r ∈ t → matches_ r args w = true → keyOf sc r ∈ keys) ∧
    (∀ rows t' item keys, stmtPhase1 sc cfg t args (.insert rows) = .ok (t', item, keys) →
        r ∈ rows.map (fun es => es.map (evalE [] args)) → keyOf sc r ∈ keys) := by
  refine ⟨?_, ?_, ?_⟩
  · intro w t' item keys h hr hm
    cases h
    exact List.mem_map.2 ⟨r, List.mem_filter.2 ⟨hr, hm⟩, rfl⟩
  · intro sets w t' item keys h hr hm
    rw [(C18_update_before sc cfg t args sets w t' item keys h).2.1]
    exact List.mem_map.2 ⟨r, List.mem_filter.2 ⟨hr, hm⟩, rfl⟩
  · intro rows t' item keys h hr
    rw [(C18_insert_images sc cfg t args rows t' item keys h).2.2.1]
    exact List.mem_map.2 ⟨r, hr, rfl⟩

/-- every key written by a still-active global transaction is held by it in the lock table -/
def Inv (s : St) : Prop := ∀ p ∈ s.wrote, holder s.locks p.2 = some p.1

theorem C03_inv_step (sc : Schema) (cfg : Cfg) (s : St) (e : Ev) (h : Inv s) : Inv (step sc cfg s e).1 := by
  cases e with
  | local_ x ltx =>
    simp only [step]
    split
    · exact h
    · rename_i t' b _
      split
      · rename_i hl
        intro p hp
        simp only [List.mem_append, List.mem_map] at hp
        rcases hp with hp | ⟨k, hk, rfl⟩
        · exact holder_acquire_of_some _ _ _ _ _ (h p hp)
        · exact holder_acquire_of_lockable _ _ _ _ hl hk
      · exact h
  | finish x =>
    intro p hp
    simp only [step, List.mem_filter, bne_iff_ne, ne_eq] at hp
    exact holder_release _ _ _ _ (h p hp.1) hp.2

theorem C03_inv_run (sc : Schema) (cfg : Cfg) (s : St) (es : List Ev) (h : Inv s) : Inv (run sc cfg s es).1 := by
  induction es generalizing s with
  | nil => exact h
  | cons e rest ih => exact ih _ (C03_inv_step sc cfg s e h)

/-- **isolation**: in every history that starts with no locks, two different still-active global
    transactions never both have written the same row -/
theorem C03_isolation (sc : Schema) (cfg : Cfg) (t : Table) (es : List Ev) (x y : Xid) (k : Key)
    (hx : (x, k) ∈ (run sc cfg { t := t } es).1.wrote) (hy : (y, k) ∈ (run sc cfg { t := t } es).1.wrote) :
    x = y := by
  have hinv : Inv (run sc cfg { t := t } es).1 :=
    C03_inv_run sc cfg { t := t } es (by intro p hp; simp at hp)
  have h1 := hinv _ hx
  have h2 := hinv _ hy
  simp only [h1, Option.some.injEq] at h2
  exact h2

/-- a local transaction whose keys conflict with another global transaction's commits nothing -/
theorem C03_refused_commits_nothing (sc : Schema) (cfg : Cfg) (s : St) (x : Xid) (ltx : LocalTx)
    (h : (step sc cfg s (.local_ x ltx)).2 = false) : (step sc cfg s (.local_ x ltx)).1 = s := by
  revert h
  simp only [step]
  split
  · intro _; rfl
  · split
    · intro h; cases h
    · intro _; rfl

/-- rows are returned only after the coordinator has been asked and has answered "lockable";
    otherwise the statement fails -/
theorem C03_sfu_consults (explicit : Bool) (matched : Nat) (r : Reply) :
    ((selectForUpdate explicit matched r).rowsReturned = true → r = .lockable ∧ (selectForUpdate explicit matched r).queried = true) ∧
    (r ≠ .lockable → (selectForUpdate explicit matched r).error = true ∧ (selectForUpdate explicit matched r).rowsReturned = false) := by
  cases r <;> simp [selectForUpdate]

/-- on a conflict outside a caller-managed transaction the local row locks are released -/
theorem C03_sfu_conflict_releases_autocommit (matched : Nat) (r : Reply) (h : r ≠ .lockable) :
    (selectForUpdate false matched r).localLocksKept = false := by
  cases r <;> simp [selectForUpdate] at h ⊢

/-- NOT the property: inside a caller-managed transaction the model (like the code, on InnoDB) keeps
    the local row locks after a conflict — recorded as a known finding, see known_findings.json -/
theorem C03_sfu_conflict_explicit_keeps_locks_FINDING (matched : Nat) (hm : 0 < matched) :
    (selectForUpdate true matched .conflict).localLocksKept = true := by
  simp [selectForUpdate, hm]

/-! ### non-vacuity -/

def sc1 : Schema := { ncols := 2, pk := [0] }
def upd (k : Int) : LocalTx := [(.update [(1, .val (.lit (.int 7)))] (.cmp .eq (.col 0) (.lit (.int k))), [])]

/-- T1 writes row 1; T2's write of row 1 is refused until T1 finishes -/
example : (run sc1 ⟨true, false⟩ { t := [[.int 1, .int 0], [.int 2, .int 0]] }
    [.local_ 1 (upd 1), .local_ 2 (upd 1), .local_ 2 (upd 2), .finish 1, .local_ 2 (upd 1)]).2 =
    [true, false, true, true, true] := by decide

/-! ### the TEXT of the lock keys (AT/KeyText.lean): the same row always has the same key text, different
    rows have different texts — provided no key part contains a separator (open finding
    C03-lock-key-separators-not-escaped) -/
section KeyTextSection
open Seata.AT.KeyText
open Seata.Lemmas.KeyText

private theorem comma_not_mem_keyText (k : List (List Char)) (hc : ∀ p ∈ k, Clean p) : ',' ∉ keyText k := by
  intro hm
  rw [keyText, joinWith_eq] at hm
  rcases Split.mem_joinWith '_' ',' k hm with e | ⟨p, hp, hcp⟩
  · exact absurd e (by decide)
  · exact (hc p hp).2.1 hcp

/-- **round trip**: the coordinator reads back exactly the keys (as lists of parts) that the client wrote,
    for every number of keys and parts, provided every key has at least one part and every part is clean -/
theorem C03_keys_text_round_trip (keys : List (List (List Char))) (hne : keys ≠ [])
    (hk : ∀ k ∈ keys, k ≠ []) (hc : ∀ k ∈ keys, ∀ p ∈ k, Clean p) :
    parseKeys (keysText keys) = keys := by
  have hsep : ∀ t ∈ keys.map keyText, ',' ∉ t := by
    intro t ht
    obtain ⟨k, hk', rfl⟩ := List.mem_map.mp ht
    exact comma_not_mem_keyText k (hc k hk')
  unfold parseKeys keysText
  rw [splitOn_joinWith ',' _ (by simpa using hne) hsep, List.map_map]
  exact map_eq_self fun k hkm => splitOn_joinWith '_' k (hk k hkm) fun p hp => (hc k hkm p hp).1

/-- **injective**: two registrations with the same text lock the same keys -/
theorem C03_keys_text_injective (ks ks' : List (List (List Char))) (hne : ks ≠ []) (hne' : ks' ≠ [])
    (hk : ∀ k ∈ ks, k ≠ []) (hk' : ∀ k ∈ ks', k ≠ [])
    (hc : ∀ k ∈ ks, ∀ p ∈ k, Clean p) (hc' : ∀ k ∈ ks', ∀ p ∈ k, Clean p)
    (h : keysText ks = keysText ks') : ks = ks' := by
  rw [← C03_keys_text_round_trip ks hne hk hc, ← C03_keys_text_round_trip ks' hne' hk' hc', h]

/-- the proviso is needed (open finding C03-lock-key-separators-not-escaped): a part that contains ',' or '_'
    reads back as other keys -/
theorem C03_FINDING_separator_in_value :
    parseKeys (keysText [[['x', ',']]]) = [[['x']], [[]]] ∧
    parseKeys (keysText [[['a', '_', 'b']]]) = [[['a'], ['b']]] ∧
    keysText [[['a', '_', 'b']]] = keysText [[['a'], ['b']]] := by
  decide

/-! non-vacuity -/
example : parseKeys (keysText [[['1', '3'], ['2', '9']], [['5'], ['2']]]) = [[['1', '3'], ['2', '9']], [['5'], ['2']]] := by
  decide

end KeyTextSection

/-! ### the two queries of a locking read with a wait option (AT/SfuGap.lean) -/
section sfuGap
open Seata.AT.SfuGap

/-- as coded, every row the application gets was named to the coordinator - for every wait option, every set of
    matching rows and every way other transactions hold and release rows between the two queries -/
theorem C03_sfu_returned_rows_are_named (m : Mode) (matching : List Nat) (held1 held2 : Nat → Bool)
    (rows : List Nat) (h : (through keyMode m matching held1 held2).returned = some rows) :
    ∀ r ∈ rows, r ∈ (through keyMode m matching held1 held2).named := by
  intro r hr
  cases m with
  | plain =>
    -- everything that matches is named
    simp only [through, keyMode, lockingRead, Option.some.injEq] at h ⊢
    subst h
    simpa using hr
  | nowait =>
    -- named is everything that matches, or the read failed
    by_cases hb : (matching.filter (fun r => held1 r && !([] : List Nat).contains r)).isEmpty = true
    · simp only [through, keyMode, lockingRead, if_pos hb] at h ⊢
      split at h
      · simp only [Option.some.injEq] at h; subst h; exact hr
      · simp at h
    · simp only [through, keyMode, lockingRead, if_neg hb] at h
      simp at h
  | skipLocked =>
    -- the key query is a plain one, everything that matches is named
    simp only [through, keyMode, lockingRead, Option.some.injEq] at h ⊢
    subst h
    exact (List.mem_filter.mp hr).1

/-- OPEN FINDING C16-skip-locked-waits-inside-global-tx, the price: as coded, a SKIP LOCKED read waits for a held
    row where the statement alone would not -/
theorem C03_sfu_skip_locked_waits_as_coded :
    (through keyMode .skipLocked [1, 2, 3] (fun r => r == 2) (fun r => r == 2)).extraWait = true := by decide

/-- ... and the alternative a seeded change proposed does not wait, but returns a row the coordinator was never
    asked about when its holder lets go between the two queries (why the key query does not inherit SKIP LOCKED) -/
theorem C03_sfu_inherited_skip_locked_returns_unnamed_row :
    let r := through keyModeInherit .skipLocked [1, 2, 3] (fun r => r == 2) (fun _ => false)
    r.extraWait = false ∧ r.named = [1, 3] ∧ r.returned = some [1, 2, 3] := by decide

/-- NOWAIT inherited: fails at once when a row is held, and never waits where the statement would not -/
theorem C03_sfu_nowait_never_waits (matching : List Nat) (held1 held2 : Nat → Bool) :
    (through keyMode .nowait matching held1 held2).extraWait = false := by
  simp only [through, keyMode, lockingRead]
  split <;> simp

end sfuGap

end Seata.Props.C03
