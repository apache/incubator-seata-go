/-
  Bytes: byte strings as `List UInt8`, big-endian integer packing, hex text.
  Core-only (no Mathlib) so the line-protocol driver can be compiled to a native executable.
-/
namespace Seata

abbrev Bytes := List UInt8

/-- big-endian encoding of `n mod 256^w` on exactly `w` bytes -/
def putBE : (w : Nat) → Nat → Bytes
  | 0, _ => []
  | w+1, n => putBE w (n / 256) ++ [UInt8.ofNat (n % 256)]

/-- value of a big-endian byte string -/
def valBE (bs : Bytes) : Nat := bs.foldl (fun acc b => acc * 256 + b.toNat) 0

/-- read exactly `w` bytes as a big-endian number; `none` when fewer are present -/
def getBE (w : Nat) (bs : Bytes) : Option (Nat × Bytes) :=
  if w ≤ bs.length then some (valBE (bs.take w), bs.drop w) else none

@[simp] theorem putBE_length (w n : Nat) : (putBE w n).length = w := by
  induction w generalizing n with
  | zero => rfl
  | succ w ih => simp [putBE, ih]

theorem valBE_append_single (bs : Bytes) (b : UInt8) : valBE (bs ++ [b]) = valBE bs * 256 + b.toNat := by
  simp [valBE, List.foldl_append]

theorem valBE_putBE (w n : Nat) : valBE (putBE w n) = n % 256 ^ w := by
  induction w generalizing n with
  | zero => simp [putBE, valBE, Nat.mod_one]
  | succ w ih =>
    have h1 : (UInt8.ofNat (n % 256)).toNat = n % 256 := by simp [UInt8.toNat_ofNat']
    rw [putBE, valBE_append_single, ih, h1, Nat.pow_succ, Nat.mul_comm (256 ^ w), Nat.mod_mul, Nat.mul_comm 256,
      Nat.add_comm]

theorem getBE_putBE (w n : Nat) (rest : Bytes) :
    getBE w (putBE w n ++ rest) = some (n % 256 ^ w, rest) := by
  unfold getBE
  rw [if_pos (by simp), List.take_left' (putBE_length w n), List.drop_left' (putBE_length w n), valBE_putBE]

theorem getBE_putBE_lt (w n : Nat) (rest : Bytes) (h : n < 256 ^ w) :
    getBE w (putBE w n ++ rest) = some (n, rest) := by
  rw [getBE_putBE, Nat.mod_eq_of_lt h]

/-! hex text, used only by the driver (not in theorems) -/

def hexDigit (n : Nat) : Char :=
  if n < 10 then Char.ofNat (48 + n) else Char.ofNat (87 + n)

def toHex (bs : Bytes) : String :=
  String.ofList (bs.flatMap fun b => [hexDigit (b.toNat / 16), hexDigit (b.toNat % 16)])

def hexVal (c : Char) : Option Nat :=
  if '0' ≤ c ∧ c ≤ '9' then some (c.toNat - 48)
  else if 'a' ≤ c ∧ c ≤ 'f' then some (c.toNat - 87)
  else if 'A' ≤ c ∧ c ≤ 'F' then some (c.toNat - 55)
  else none

def ofHexChars : List Char → Option Bytes
  | [] => some []
  | [_] => none
  | a :: b :: r => do
    let x ← hexVal a
    let y ← hexVal b
    let t ← ofHexChars r
    pure (UInt8.ofNat (x * 16 + y) :: t)

/-- `-` denotes the empty byte string on the wire of the line protocol -/
def ofHex (s : String) : Option Bytes :=
  if s == "-" then some [] else ofHexChars s.toList

def hexOrDash (bs : Bytes) : String := if bs.isEmpty then "-" else toHex bs

end Seata
