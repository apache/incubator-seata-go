/-
  Well-formedness of schemas, tables and statements: what the database and the SQL layer guarantee.
  (The names are those of C01, the first property stated under these assumptions.)
-/
import SeataModel.AT.Phase1
namespace Seata.Props.C01
open Seata.DB

structure WFSchema (sc : Schema) : Prop where
  pk_lt : ∀ i ∈ sc.pk, i < sc.ncols

structure WFTable (sc : Schema) (t : Table) : Prop where
  uniq : PkUnique sc t
  shape : ∀ r ∈ t, r.length = sc.ncols

/-- UPDATE (also with ORDER BY … LIMIT) does not assign primary-key columns (the proxy rejects that:
    `pkChanged`) and only names existing columns; INSERT gives one expression per column; INSERT … ON
    DUPLICATE KEY UPDATE both -/
def WFStmt (sc : Schema) : Stmt → Prop
  | .update sets _ => ∀ p ∈ sets, p.1 < sc.ncols ∧ p.1 ∉ sc.pk
  | .delete _ => True
  | .insert rows => ∀ es ∈ rows, es.length = sc.ncols
  | .failing _ => True
  | .upsert rows assign =>
    (∀ es ∈ rows, es.length = sc.ncols) ∧ ∀ p ∈ assign, p.1 < sc.ncols ∧ p.1 ∉ sc.pk
  | .updateLim sets _ _ _ => ∀ p ∈ sets, p.1 < sc.ncols ∧ p.1 ∉ sc.pk
  | .deleteLim _ _ _ => True

end Seata.Props.C01
