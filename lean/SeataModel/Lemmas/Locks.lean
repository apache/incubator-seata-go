/-
  For C03: a local transaction leaves `lookup` alone outside its lock keys (`Effect.lookup`, Lemmas/Store, per
  statement), and the coordinator's lock table (`holder`, `acquire`, `release`).
-/
import SeataModel.AT.Locks
import SeataModel.Lemmas.Store
namespace Seata.Lemmas.Locks
open Seata.DB Seata.AT Seata.AT.Locks Seata.Lemmas.Store Seata.Props.C01

theorem local_lookup_unchanged {sc : Schema} (cfg : Cfg) : ∀ {ltx : LocalTx} {t t' : Table} {b : Branch},
    WFTable sc t → (∀ p ∈ ltx, WFStmt sc p.1) →
    localPhase1 sc cfg t ltx = .ok (t', b) → ∀ k : Key, k ∉ b.lockKeys →
    lookup sc t' k = lookup sc t k := by
  intro ltx
  induction ltx with
  | nil => intro t t' b _ _ h k _; cases h; rfl
  | cons p rest ih =>
    intro t t' b ht hs h k hk
    obtain ⟨t1, item, keys, b', h1, h2, rfl⟩ := localPhase1_cons_ok.1 h
    rw [List.mem_append, not_or] at hk
    have hE := stmtPhase1_effect cfg ht (hs _ List.mem_cons_self) h1
    rw [ih (hE.wf ht) (fun q hq => hs q (List.mem_cons_of_mem _ hq)) h2 k hk.2, hE.lookup hk.1]

theorem find?_filter_some {α : Type _} (p q : α → Bool) (a : α) : ∀ (l : List α),
    l.find? p = some a → q a = true → (l.filter q).find? p = some a := by
  intro l h hq
  induction l with
  | nil => cases h
  | cons b l ih =>
    rw [List.find?_cons] at h
    cases hp : p b <;> rw [hp] at h
    · cases hqb : q b <;> simp [hqb, hp, ih h]
    · cases h; simp [hq, hp]

theorem holder_append (lt : LockTable) (k' : Key) (x : Xid) (k : Key) :
    holder (lt ++ [(k', x)]) k = (holder lt k).or (if k' = k then some x else none) := by
  unfold holder
  rw [List.find?_append]
  cases lt.find? (fun p => p.1 == k) <;> by_cases hk : k' = k <;> simp [hk]

theorem holder_acquire (x : Xid) (k : Key) : ∀ (keys : List Key) (lt : LockTable),
    holder (acquire lt x keys) k = (holder lt k).or (if k ∈ keys then some x else none) := by
  intro keys
  induction keys with
  | nil => intro lt; simp [acquire]
  | cons k' ks ih =>
    intro lt
    rw [acquire, List.foldl_cons, ← acquire, ih]
    split
    · rename_i hh
      obtain ⟨y, hy⟩ := Option.isSome_iff_exists.1 hh
      by_cases hk : k = k' <;> simp [hk, hy]
    · rw [holder_append]
      by_cases hk : k' = k
      · subst hk; cases holder lt k' <;> simp
      · simp [hk, Ne.symm hk]

theorem holder_acquire_of_some (lt : LockTable) (x y : Xid) (keys : List Key) (k : Key)
    (h : holder lt k = some y) : holder (acquire lt x keys) k = some y := by
  rw [holder_acquire, h]; rfl

theorem holder_acquire_of_lockable (lt : LockTable) (x : Xid) (keys : List Key) (k : Key)
    (hl : lockable lt x keys = true) (hk : k ∈ keys) : holder (acquire lt x keys) k = some x := by
  rw [holder_acquire]
  have := List.all_eq_true.1 hl k hk
  cases hh : holder lt k with
  | none => simp [hk]
  | some y =>
    rw [hh] at this
    have : y = x := by simpa using this
    simp [this]

theorem holder_release (lt : LockTable) (x y : Xid) (k : Key)
    (h : holder lt k = some y) (hne : y ≠ x) : holder (release lt x) k = some y := by
  unfold holder at h ⊢
  obtain ⟨a, ha, rfl⟩ := Option.map_eq_some_iff.1 h
  rw [release, find?_filter_some _ _ a lt ha (by simpa using hne)]; rfl

end Seata.Lemmas.Locks
