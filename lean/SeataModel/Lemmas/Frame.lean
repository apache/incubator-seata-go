/-
  The writer builds a frame by concatenation, the reader picks its fields out by offset (`field`).
  `header_fields` and `readFrame_header` carry the one over to the other; the reader's answers on a whole frame
  and on a strict prefix, and with them the receive loop on any cut of a frame stream, rest on these two.
-/
import SeataModel.Codec.Frame
import SeataModel.Lemmas.Codec
namespace Seata.Frame
open Seata.Codec

theorem field_cons (x : UInt8) (b : Bytes) (off w : Nat) : field (x :: b) (off + 1) w = field b off w := rfl

theorem field_put_skip (w n : Nat) (b : Bytes) (off k : Nat) (h : w ≤ off) :
    field (putBE w n ++ b) off k = field b (off - w) k := by
  unfold field
  rw [List.drop_append, List.drop_eq_nil_of_le (by simpa using h)]; simp

theorem field_put_here (w n : Nat) (rest : Bytes) : field (putBE w n ++ rest) 0 w = n % 256 ^ w := by
  unfold field
  rw [List.drop_zero, List.take_left' (putBE_length w n), valBE_putBE]

@[simp] theorem header_length (m : RpcMsg) : (header m).length = 16 := by
  simp [header]

theorem header_fields (m : RpcMsg) (X : Bytes) (hwf : WF m) :
    field (header m ++ X) 3 4 = totalLen m ∧ field (header m ++ X) 7 2 = headLen m ∧
    field (header m ++ X) 9 1 = m.type ∧ field (header m ++ X) 10 1 = m.codec ∧
    field (header m ++ X) 11 1 = m.comp ∧ field (header m ++ X) 12 4 = m.id := by
  obtain ⟨hid, hty, hco, hcm, -, hhl, htl⟩ := hwf
  simp [header, field_cons, field_put_skip, field_put_here, Nat.mod_eq_of_lt, *]

theorem length_le_encodeHM (kvs : List (Bytes × Bytes)) : kvs.length ≤ (encodeHM kvs).length := by
  induction kvs with
  | nil => simp
  | cons kv r ih => simp [encodeHM]; omega

theorem decodeHM_encodeHM (kvs : List (Bytes × Bytes)) (f : Nat) (hf : kvs.length ≤ f)
    (h : ∀ kv ∈ kvs, kv.1.length < 256 ^ 2 ∧ kv.2.length < 256 ^ 2) :
    decodeHM f (encodeHM kvs) = some kvs := by
  induction kvs generalizing f with
  | nil => cases f <;> rfl
  | cons kv r ih =>
    obtain ⟨k, v⟩ := kv
    obtain ⟨hk, hv⟩ := h (k, v) (by simp)
    cases f with
    | zero => simp at hf
    | succ f =>
      have hne : (encodeHM ((k, v) :: r)).isEmpty = false := by simp [encodeHM, putBE]
      rw [decodeHM, hne]
      simp only [encodeHM, Bool.false_eq_true, if_false, List.append_assoc]
      rw [← List.append_assoc, getStr_put 2 k _ hk]
      simp only
      rw [← List.append_assoc, getStr_put 2 v _ hv]
      simp only
      rw [ih f (by simpa using hf) (fun kv hkv => h kv (by simp [hkv]))]
      rfl

theorem writeFrame_eq (m : RpcMsg) : writeFrame m = header m ++ (encodeHM m.head ++ m.body) := by
  simp [writeFrame]

theorem writeFrame_length (m : RpcMsg) : (writeFrame m).length = totalLen m := by
  simp [writeFrame, totalLen, headLen]; omega

/-- What the reader makes of ANY buffer that begins with the header of a well-formed message (`X` may end
    anywhere): it waits for `totalLen m` bytes, then cuts head map and body where the header says. -/
theorem readFrame_header (m : RpcMsg) (X : Bytes) (hwf : WF m) :
    readFrame (header m ++ X) =
      if 16 + X.length < totalLen m then .needMore
      else match decodeHM (encodeHM m.head).length (X.take (encodeHM m.head).length) with
        | none => .bad
        | some hm => .frame { m with head := hm, body := (X.drop (encodeHM m.head).length).take m.body.length }
                       (totalLen m) := by
  obtain ⟨f1, f2, f3, f4, f5, f6⟩ := header_fields m X hwf
  have hmagic : magicOK (header m ++ X) = true := by simp [header, magicOK]
  have h16 : ¬ (headLen m < 16 ∨ totalLen m < headLen m) := by unfold totalLen headLen; omega
  have hd : (header m ++ X).drop (headLen m) = X.drop (encodeHM m.head).length := by
    rw [List.drop_append, List.drop_eq_nil_of_le (by simp [headLen])]; simp [headLen]
  have hl : ¬ 16 + X.length < 16 := by omega
  unfold readFrame
  simp only [hl, hmagic, f1, f2, f3, f4, f5, f6, hd, h16, List.length_append, header_length, Bool.or_eq_true,
    decide_eq_true_eq, List.drop_left' (header_length m)]
  simp only [headLen, totalLen, Nat.add_sub_cancel_left]
  rfl  -- the two sides differ only in which auxiliary `match` function they name

theorem readFrame_whole (m : RpcMsg) (rest : Bytes) (hwf : WF m) :
    readFrame (writeFrame m ++ rest) = .frame m (totalLen m) := by
  have hhd := hwf.2.2.2.2.1  -- the clause of `WF` on the head-map entries
  -- the buffer is `header m ++ X` with `X = encodeHM m.head ++ (m.body ++ rest)`, which is long enough
  rw [writeFrame_eq, List.append_assoc, List.append_assoc, readFrame_header m _ hwf,
    if_neg (by simp [totalLen, headLen]; omega)]
  -- cut where the header says, `X` gives the head map's own encoding and then the body
  rw [List.take_left, List.drop_left, List.take_left, decodeHM_encodeHM _ _ (length_le_encodeHM _) hhd]

theorem magicOK_prefix (p s : Bytes) (h : magicOK (p ++ s) = true) : magicOK p = true := by
  match p, s with
  | [], _ => rfl
  | [a], [] => exact h
  | [a], b :: _ => simp_all [magicOK]
  | a :: b :: _, _ => exact h

theorem readFrame_prefix (m : RpcMsg) (p s : Bytes) (hwf : WF m) (hps : p ++ s = writeFrame m) (hs : s ≠ []) :
    readFrame p = .needMore := by
  have hlen : p.length < totalLen m := by
    have := congrArg List.length hps
    have := List.length_pos_iff.mpr hs
    simp [writeFrame_length] at *; omega
  by_cases h16 : p.length < 16
  · -- `p` ends inside the header: all the reader tests is the magic
    have hm : magicOK p = true := magicOK_prefix p s (by simp [hps, writeFrame, header, magicOK])
    simp [readFrame, hm, h16]
  · -- `p` holds the whole header
    have hp : p = header m ++ p.drop 16 := by
      have := congrArg (List.take 16) hps
      rw [List.take_append_of_le_length (by omega), writeFrame_eq, List.take_left' (header_length m)] at this
      rw [← this, List.take_append_drop]
    rw [hp, readFrame_header m _ hwf, if_pos (by simp; omega)]

def frames (ms : List RpcMsg) : Bytes := (ms.map writeFrame).flatten

/-- a buffer on which the receive loop delivers nothing and waits -/
def Quiet (p : Bytes) : Prop := ∀ f, drain f p = ([], p, false)

theorem frames_cons (m : RpcMsg) (r : List RpcMsg) : frames (m :: r) = writeFrame m ++ frames r := by
  simp [frames]

theorem frames_append (a b : List RpcMsg) : frames (a ++ b) = frames a ++ frames b := by
  simp [frames]

theorem quiet_nil : Quiet [] := fun f => by cases f <;> rfl

theorem quiet_prefix (m : RpcMsg) (p s : Bytes) (hwf : WF m) (hps : p ++ s = writeFrame m) (hs : s ≠ []) :
    Quiet p := fun f => by
  cases f with
  | zero => rfl
  | succ f => unfold drain; split <;> simp_all [readFrame_prefix m p s hwf hps hs]

theorem drain_frame (f : Nat) (m : RpcMsg) (X : Bytes) (hwf : WF m) :
    drain (f + 1) (writeFrame m ++ X) = (m :: (drain f X).1, (drain f X).2) := by
  have hne : (writeFrame m ++ X).isEmpty = false := by simp [writeFrame, header]
  rw [drain, hne]
  simp only [Bool.false_eq_true, if_false, readFrame_whole m X hwf, ← writeFrame_length m, List.drop_left]

/-- The loop on any prefix `Q` of a frame stream delivers the frames that are complete in `Q` and keeps a quiet
    remainder, which the bytes still to come (`S`) complete to the rest of the stream.  `Q.length` bounds the
    number of turns because a frame has at least one byte. -/
theorem drain_prefix (rem : List RpcMsg) (hwf : ∀ m ∈ rem, WF m) (Q S : Bytes) (h : Q ++ S = frames rem)
    (fuel : Nat) (hf : Q.length < fuel) :
    ∃ done rest p, rem = done ++ rest ∧ Quiet p ∧ p ++ S = frames rest ∧ drain fuel Q = (done, p, false) := by
  induction rem generalizing Q fuel with
  | nil =>
    obtain ⟨rfl, rfl⟩ := List.append_eq_nil_iff.mp h
    exact ⟨[], [], [], rfl, quiet_nil, rfl, quiet_nil fuel⟩
  | cons m r ih =>
    rw [frames_cons] at h
    have hm := hwf m (by simp)
    -- `Q` holds the whole first frame: one turn, then the rest
    have cover : ∀ c', Q = writeFrame m ++ c' → c' ++ S = frames r →
        ∃ done rest p, m :: r = done ++ rest ∧ Quiet p ∧ p ++ S = frames rest ∧ drain fuel Q = (done, p, false) := by
      rintro c' rfl hF
      obtain ⟨f, rfl⟩ : ∃ f, fuel = f + 1 := ⟨fuel - 1, by omega⟩
      obtain ⟨done, rest, p, rfl, hq, hp, hd⟩ :=
        ih (fun x hx => hwf x (by simp [hx])) c' hF f (by simp [writeFrame_length, totalLen, headLen] at hf; omega)
      exact ⟨m :: done, rest, p, rfl, hq, hp, by rw [drain_frame f m c' hm, hd]⟩
    rcases List.append_eq_append_iff.mp h with ⟨a', hW, hS⟩ | ⟨c', hQ, hF⟩
    · cases a' with
      | nil => exact cover [] (by simpa using hW.symm) (by simpa using hS)
      | cons x a' =>
        -- `Q` ends inside the first frame
        have hq := quiet_prefix m Q _ hm hW.symm (List.cons_ne_nil x a')
        exact ⟨[], m :: r, Q, rfl, hq, by rw [frames_cons]; exact h, hq fuel⟩
    · exact cover c' hQ hF.symm

/-- `C13_truncated` for a loop already under way (`d` delivered, `b` buffered), as the induction over the chunks needs it -/
theorem feed_general (chunks : List Bytes) (S : Bytes) (d : List RpcMsg) (b : Bytes) (rem : List RpcMsg)
    (hwf : ∀ m ∈ rem, WF m) (hq : Quiet b) (h : b ++ chunks.flatten ++ S = frames rem) :
    ∃ done rest p, rem = done ++ rest ∧ Quiet p ∧ p ++ S = frames rest ∧
      chunks.foldl recv { delivered := d, buf := b, closed := false }
        = { delivered := d ++ done, buf := p, closed := false } := by
  induction chunks generalizing d b rem with
  | nil => exact ⟨[], rem, b, rfl, hq, by simpa using h, by simp⟩
  | cons c cs ih =>
    obtain ⟨done1, rest1, p1, rfl, g2, g3, g4⟩ :=
      drain_prefix rem hwf (b ++ c) (cs.flatten ++ S) (by simpa using h) ((b ++ c).length + 1) (Nat.lt_succ_self _)
    obtain ⟨done2, rest2, p2, rfl, k2, k3, k4⟩ :=
      ih (d ++ done1) p1 rest1 (fun x hx => hwf x (by simp [hx])) g2 (by simpa using g3)
    refine ⟨done1 ++ done2, rest2, p2, by simp, k2, k3, ?_⟩
    have hstep : recv { delivered := d, buf := b, closed := false } c
        = { delivered := d ++ done1, buf := p1, closed := false } := by
      unfold recv
      simp only [Bool.false_eq_true, if_false, g4]
    rw [List.foldl_cons, hstep, k4, List.append_assoc]

/-- with nothing missing from the stream the quiet remainder is empty: this turns `C13_truncated` into `C13_any_partition` -/
theorem quiet_frames_nil (p : Bytes) (rest : List RpcMsg) (hwf : ∀ m ∈ rest, WF m) (hq : Quiet p)
    (h : p = frames rest) : rest = [] ∧ p = [] := by
  cases rest with
  | nil => exact ⟨rfl, h⟩
  | cons m r =>
    have := hq 1
    rw [h, frames_cons, drain_frame 0 m _ (hwf m (by simp))] at this
    cases this

end Seata.Frame
