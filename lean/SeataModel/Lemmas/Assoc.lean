/- Association lists as the models keep them (fence store, pending-request table): looked up by `find?` on the
   first component, an entry removed by `filter`. -/
namespace Seata.Lemmas.Assoc
variable {κ : Type _} {β : Type _} [BEq κ] [LawfulBEq κ]

theorem find?_filter_ne (l : List (κ × β)) (k k' : κ) :
    (l.filter fun p => p.1 != k).find? (fun p => p.1 == k') =
      if k' == k then none else l.find? (fun p => p.1 == k') := by
  rw [List.find?_filter]
  split
  · next h => exact List.find?_eq_none.2 fun p _ => by simp [eq_of_beq h]
  · next h =>
    -- an entry for `k'` is not one for `k`: the two tests agree
    congr 1; funext p
    by_cases hp : p.1 = k' <;> simp_all

end Seata.Lemmas.Assoc
