/-
  Splitting a list at a separator and joining parts with one, over any element type.  The model writes these
  two functions out more than once (AT/KeyText.lean on characters, UndoLog/ColVal.lean on bytes; the splitter a
  third time in Remoting/LoadBalance.lean, about which nothing is proved); the facts about them are proved here
  once and carried over by the equations `splitOn_eq` / `joinWith_eq` in Lemmas/KeyText.lean and Lemmas/UndoLog.lean.
-/
namespace Seata.Split
variable {α : Type}

def joinWith (sep : α) : List (List α) → List α
  | [] => []
  | [p] => p
  | p :: q :: rest => p ++ sep :: joinWith sep (q :: rest)

theorem mem_joinWith (sep c : α) (parts : List (List α)) (hc : c ∈ joinWith sep parts) :
    c = sep ∨ ∃ p ∈ parts, c ∈ p := by
  induction parts with
  | nil => simp [joinWith] at hc
  | cons p rest ih =>
    cases rest with
    | nil => exact .inr ⟨p, by simp, hc⟩
    | cons q rest' =>
      simp only [joinWith, List.mem_append, List.mem_cons] at hc
      rcases hc with hp | rfl | hr
      · exact .inr ⟨p, by simp, hp⟩
      · exact .inl rfl
      · exact (ih hr).imp_right fun ⟨r, hr, hcr⟩ => ⟨r, by simp [hr], hcr⟩

variable [DecidableEq α]

def splitOn (sep : α) : List α → List (List α)
  | [] => [[]]
  | c :: rest =>
    if c = sep then [] :: splitOn sep rest
    else match splitOn sep rest with
      | [] => [[c]]
      | p :: ps => (c :: p) :: ps

theorem splitOn_ne_nil (sep : α) (l : List α) : splitOn sep l ≠ [] := by
  cases l with
  | nil => simp [splitOn]
  | cons c rest =>
    unfold splitOn
    split
    · simp
    · split <;> simp

theorem splitOn_of_not_mem (sep : α) (p : List α) (h : sep ∉ p) : splitOn sep p = [p] := by
  induction p with
  | nil => rfl
  | cons c p ih =>
    rw [List.mem_cons, not_or] at h
    simp [splitOn, Ne.symm h.1, ih h.2]

theorem splitOn_append_sep (sep : α) (p rest : List α) (h : sep ∉ p) :
    splitOn sep (p ++ sep :: rest) = p :: splitOn sep rest := by
  induction p with
  | nil => simp [splitOn]
  | cons c p ih =>
    rw [List.mem_cons, not_or] at h
    simp [splitOn, Ne.symm h.1, ih h.2]

theorem splitOn_joinWith (sep : α) (parts : List (List α)) (hne : parts ≠ [])
    (h : ∀ p ∈ parts, sep ∉ p) : splitOn sep (joinWith sep parts) = parts := by
  induction parts with
  | nil => exact absurd rfl hne
  | cons p rest ih =>
    cases rest with
    | nil => exact splitOn_of_not_mem sep p (h p (by simp))
    | cons q rest' =>
      rw [joinWith, splitOn_append_sep sep p _ (h p (by simp)), ih (by simp) fun r hr => h r (by simp [hr])]

end Seata.Split
