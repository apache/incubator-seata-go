/-
  Facts about the definitions of AT/Phase1.lean and AT/World.lean that need no well-formed table:
  comparing images, the fold over a branch's items, a local transaction statement by statement, one
  rollback delivery case by case.
-/
import SeataModel.AT.World
namespace Seata.AT
open Seata.DB

theorem cellsEq_sound (a b : List (Nat × Val)) (h : cellsEq a b = true) :
    ∀ p ∈ a, ∃ q ∈ b, q.1 = p.1 ∧ q.2 = p.2 := by
  intro p hp
  unfold cellsEq at h
  rw [List.all_eq_true] at h
  have h1 := h p hp
  cases hf : b.find? (fun q => q.1 == p.1) with
  | none => simp [hf] at h1
  | some q =>
    have hm := List.mem_of_find?_eq_some hf
    have hq := List.find?_some hf
    simp [hf] at h1
    exact ⟨q, hm, by simpa using hq, h1⟩

theorem cellsEq_detects (a b : List (Nat × Val)) (c : Nat) (v v' : Val)
    (hc : (c, v) ∈ a) (hb : b.find? (fun q => q.1 == c) = some (c, v')) (hne : v ≠ v') :
    cellsEq a b = false := by
  cases h : cellsEq a b with
  | false => rfl
  | true =>
    exfalso
    unfold cellsEq at h
    rw [List.all_eq_true] at h
    have h1 := h (c, v) hc
    simp [hb] at h1
    exact hne h1.symm

theorem recordsEq_length (old new : List IRow) (h : recordsEq old new = true) :
    old.length = new.length := by
  unfold recordsEq at h
  simp only [Bool.and_eq_true, beq_iff_eq] at h
  exact h.1

theorem recordsEq_row (old new : List IRow) (h : recordsEq old new = true) (o : IRow) (ho : o ∈ old) :
    ∃ n, new.find? (fun n => n.key == o.key) = some n ∧ cellsEq o.cells n.cells = true := by
  unfold recordsEq at h
  simp only [Bool.and_eq_true, List.all_eq_true] at h
  have h1 := h.2 o ho
  cases hf : new.find? (fun n => n.key == o.key) with
  | none => simp [hf] at h1
  | some n => simp only [hf] at h1; exact ⟨n, rfl, h1⟩

theorem undoStep_ok (sc : Schema) (cfg : Cfg) (u u' : Table) (it : Item) (res : UndoRes)
    (h : undoItem sc cfg u it = (u', res)) (hr : res = .done ∨ res = .skipped) :
    undoStep sc cfg (u, true) it = (u', true) := by
  rcases hr with rfl | rfl <;> simp [undoStep, h]

theorem undoStep_fail (sc : Schema) (cfg : Cfg) (u : Table) (it : Item)
    (h : (undoItem sc cfg u it).2 = .dirty ∨ (undoItem sc cfg u it).2 = .sqlError) :
    undoStep sc cfg (u, true) it = (u, false) := by
  generalize hres : undoItem sc cfg u it = r at h
  obtain ⟨u', res⟩ := r
  rcases h with rfl | rfl <;> simp [undoStep, hres]

theorem undoFold_false (sc : Schema) (cfg : Cfg) (u : Table) (l : List Item) :
    l.foldl (undoStep sc cfg) (u, false) = (u, false) := by
  induction l with
  | nil => rfl
  | cons a as ih => simpa [List.foldl_cons, undoStep] using ih

theorem undoFold_append_ok (sc : Schema) (cfg : Cfg) (u u1 : Table) (l1 l2 : List Item)
    (h : undoFold sc cfg u l1 = (u1, true)) : undoFold sc cfg u (l1 ++ l2) = undoFold sc cfg u1 l2 := by
  simp only [undoFold, List.foldl_append] at h ⊢
  rw [h]

theorem undoFold_fail (sc : Schema) (cfg : Cfg) (t : Table) (pre post : List Item) (it : Item)
    (hpre : (undoFold sc cfg t pre).2 = true)
    (hit : (undoItem sc cfg (undoFold sc cfg t pre).1 it).2 = .dirty ∨
           (undoItem sc cfg (undoFold sc cfg t pre).1 it).2 = .sqlError) :
    undoFold sc cfg t (pre ++ it :: post) = ((undoFold sc cfg t pre).1, false) := by
  rw [undoFold_append_ok sc cfg t _ pre _ (by rw [← hpre]), undoFold, List.foldl_cons,
    undoStep_fail sc cfg _ it hit, undoFold_false]

theorem undoBranch_dirty (sc : Schema) (cfg : Cfg) (t : Table) (b : Branch) (pre post : List Item) (it : Item)
    (hitems : b.items.reverse = pre ++ it :: post)
    (hpre : (undoFold sc cfg t pre).2 = true)
    (hdirty : (undoItem sc cfg (undoFold sc cfg t pre).1 it).2 = .dirty) :
    undoBranch sc cfg t b = (t, false) := by
  simp [undoBranch, hitems, undoFold_fail sc cfg t pre post it hpre (Or.inl hdirty)]

theorem localPhase1_cons_ok {sc : Schema} {cfg : Cfg} {t t' : Table} {s : Stmt} {args : Args} {rest : LocalTx}
    {b : Branch} :
    localPhase1 sc cfg t ((s, args) :: rest) = .ok (t', b) ↔
      ∃ t1 item keys b', stmtPhase1 sc cfg t args s = .ok (t1, item, keys) ∧
        localPhase1 sc cfg t1 rest = .ok (t', b') ∧
        b = { items := (if item.nonEmpty then [item] else []) ++ extraItems sc t t1 args s ++ b'.items,
              lockKeys := keys ++ b'.lockKeys } := by
  constructor
  · intro h
    simp only [localPhase1] at h
    split at h
    · cases h
    · rename_i t1 item keys h1
      split at h
      · cases h
      · rename_i t2 b' h2
        cases h
        exact ⟨t1, item, keys, b', h1, h2, rfl⟩
  · rintro ⟨t1, item, keys, b', h1, h2, rfl⟩
    simp only [localPhase1, h1, h2]

section Rollback
variable {sc : Schema} {cfg : Cfg} {w : World} {i : Nat} {bs : BranchSt}

theorem rollbackBranch_none (hb : w.branches[i]? = none) : rollbackBranch sc cfg w i = (w, false) := by
  simp [rollbackBranch, hb]

theorem rollbackBranch_noLog (hb : w.branches[i]? = some bs) (hl : bs.hasLog = false) :
    rollbackBranch sc cfg w i = ({ w with branches := w.branches.set i { bs with marker := true } }, true) := by
  simp [rollbackBranch, hb, hl]

theorem rollbackBranch_log (hb : w.branches[i]? = some bs) (hl : bs.hasLog = true) :
    rollbackBranch sc cfg w i =
      if (undoBranch sc cfg w.t bs.b).2 then
        ({ t := (undoBranch sc cfg w.t bs.b).1, branches := w.branches.set i { bs with hasLog := false } }, true)
      else (w, false) := by
  simp [rollbackBranch, hb, hl]

/-- a delivery changes nothing and fails, or leaves branch `i` without undo log and is answered "rollbacked" -/
theorem rollbackBranch_outcome (sc : Schema) (cfg : Cfg) (w : World) (i : Nat) :
    rollbackBranch sc cfg w i = (w, false) ∨
    ∃ bs bs' t', w.branches[i]? = some bs ∧ bs'.hasLog = false ∧
      rollbackBranch sc cfg w i = ({ t := t', branches := w.branches.set i bs' }, true) := by
  cases hb : w.branches[i]? with
  | none => exact .inl (rollbackBranch_none hb)
  | some bs =>
    cases hl : bs.hasLog with
    | false => exact .inr ⟨bs, { bs with marker := true }, w.t, rfl, hl, rollbackBranch_noLog hb hl⟩
    | true =>
      rw [rollbackBranch_log hb hl]
      split
      · exact .inr ⟨bs, { bs with hasLog := false }, _, rfl, rfl, rfl⟩
      · exact .inl rfl

end Rollback

end Seata.AT
