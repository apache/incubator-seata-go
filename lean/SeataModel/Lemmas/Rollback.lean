/-
  Rollback of a branch and of a global transaction (C01): the undo items of a local transaction,
  compensated last first, take the table back (`local_restore`); the branches of a global
  transaction, rolled back last first, take it back to where the first one started (`RollsBack`).
-/
import SeataModel.Lemmas.Store
namespace Seata.Lemmas.Store
open Seata.DB Seata.AT Seata.Props.C01

theorem local_restore {sc : Schema} (cfg : Cfg) : ∀ {ltx : LocalTx} {t t' : Table} {b : Branch},
    WFTable sc t → (∀ p ∈ ltx, WFStmt sc p.1) → localPhase1 sc cfg t ltx = .ok (t', b) →
    WFTable sc t' ∧ Undoes sc cfg t b.items t' := by
  intro ltx
  induction ltx with
  | nil => intro t t' b ht _ h; cases h; exact ⟨ht, .nil⟩
  | cons p rest ih =>
    intro t t' b ht hs h
    obtain ⟨t1, item, keys, b', h1, h2, rfl⟩ := localPhase1_cons_ok.1 h
    have hE := stmtPhase1_effect cfg ht (hs _ List.mem_cons_self) h1
    obtain ⟨hwf2, hrest⟩ := ih (hE.wf ht) (fun q hq => hs q (List.mem_cons_of_mem _ hq)) h2
    exact ⟨hwf2, .append (restoresX_fold (hE.restoresX cfg ht)) hrest⟩

theorem lenient_restore {sc : Schema} (cfg : Cfg) : ∀ {ltx : LocalTx} {t : Table},
    WFTable sc t → (∀ p ∈ ltx, WFStmt sc p.1) →
    WFTable sc (localPhase1Lenient sc cfg t ltx).1 ∧
      Undoes sc cfg t (localPhase1Lenient sc cfg t ltx).2.1.items (localPhase1Lenient sc cfg t ltx).1 := by
  intro ltx
  induction ltx with
  | nil => exact fun ht _ => ⟨ht, .nil⟩
  | cons p rest ih =>
    intro t ht hs
    obtain ⟨s, args⟩ := p
    simp only [localPhase1Lenient]
    split
    · exact ih ht (fun q hq => hs q (List.mem_cons_of_mem _ hq))
    · rename_i t1 item keys h1
      have hE := stmtPhase1_effect cfg ht (hs _ List.mem_cons_self) h1
      obtain ⟨hwf2, hrest⟩ := ih (hE.wf ht) (fun q hq => hs q (List.mem_cons_of_mem _ hq))
      exact ⟨hwf2, .append (restoresX_fold (hE.restoresX cfg ht)) hrest⟩

theorem undoBranch_of_fold (sc : Schema) (cfg : Cfg) (u u' : Table) (b : Branch)
    (h : undoFold sc cfg u b.items.reverse = (u', true)) : undoBranch sc cfg u b = (u', true) := by
  simp [undoBranch, h]

section
variable {sc : Schema} {cfg : Cfg}

/-- branches registered later do not matter to a delivery -/
theorem rollbackBranch_append {t : Table} {bs : List BranchSt} (ys : List BranchSt) {i : Nat} (hi : i < bs.length) :
    rollbackBranch sc cfg ⟨t, bs ++ ys⟩ i =
      (⟨(rollbackBranch sc cfg ⟨t, bs⟩ i).1.t, (rollbackBranch sc cfg ⟨t, bs⟩ i).1.branches ++ ys⟩,
        (rollbackBranch sc cfg ⟨t, bs⟩ i).2) := by
  have hb : (⟨t, bs⟩ : World).branches[i]? = some bs[i] := List.getElem?_eq_getElem hi
  have hb' : (⟨t, bs ++ ys⟩ : World).branches[i]? = some bs[i] := by
    rw [List.getElem?_append_left hi]; exact hb
  cases hl : bs[i].hasLog with
  | false => rw [rollbackBranch_noLog hb hl, rollbackBranch_noLog hb' hl, List.set_append_left _ _ hi]
  | true =>
    rw [rollbackBranch_log hb hl, rollbackBranch_log hb' hl]
    split <;> simp [List.set_append_left _ _ hi]

theorem rollbackBranch_length (w : World) (i : Nat) :
    (rollbackBranch sc cfg w i).1.branches.length = w.branches.length := by
  rcases rollbackBranch_outcome sc cfg w i with h | ⟨_, _, _, _, _, h⟩ <;> rw [h]
  exact List.length_set

theorem foldl_rollback_append (ys : List BranchSt) : ∀ (is : List Nat) (t : Table) (bs : List BranchSt) (ok : Bool),
    (∀ i ∈ is, i < bs.length) →
    is.foldl (fun acc i => let r := rollbackBranch sc cfg acc.1 i; (r.1, acc.2 && r.2)) (⟨t, bs ++ ys⟩, ok) =
      let r := is.foldl (fun acc i => let r := rollbackBranch sc cfg acc.1 i; (r.1, acc.2 && r.2)) (⟨t, bs⟩, ok)
      (⟨r.1.t, r.1.branches ++ ys⟩, r.2) := by
  intro is
  induction is with
  | nil => intros; rfl
  | cons i is ih =>
    intro t bs ok h
    rw [List.foldl_cons, List.foldl_cons]
    simp only [rollbackBranch_append ys (h i List.mem_cons_self)]
    exact ih _ _ _ fun j hj => by
      rw [rollbackBranch_length]; exact h j (List.mem_cons_of_mem _ hj)

/-- rolling back the branches `bs`, last first, from (any permutation of) `T`: every delivery is
    answered "rollbacked", the table is (a permutation of) `t0` again, no undo log is left -/
def RollsBack (sc : Schema) (cfg : Cfg) (t0 : Table) (bs : List BranchSt) (T : Table) : Prop :=
  ∀ u : Table, u.Perm T → ∃ w', rollbackAll sc cfg ⟨u, bs⟩ = (w', true) ∧ w'.t.Perm t0 ∧
    ∀ b ∈ w'.branches, b.hasLog = false

theorem RollsBack.nil {t0 : Table} : RollsBack sc cfg t0 [] t0 :=
  fun u hp => ⟨⟨u, []⟩, rfl, hp, fun _ h => nomatch h⟩

theorem RollsBack.snoc {t0 tm tn : Table} {bs : List BranchSt} {x : BranchSt}
    (h : RollsBack sc cfg t0 bs tm) (hu : Undoes sc cfg tm x.b.items tn) (hnl : x.hasLog = false → x.b.items = []) :
    RollsBack sc cfg t0 (bs ++ [x]) tn := by
  intro u hp
  -- the last branch first …
  obtain ⟨u', hf, hp'⟩ := hu u hp
  have hx : (⟨u, bs ++ [x]⟩ : World).branches[bs.length]? = some x := by simp
  obtain ⟨x', hx', hrb⟩ : ∃ x', x'.hasLog = false ∧
      rollbackBranch sc cfg ⟨u, bs ++ [x]⟩ bs.length = (⟨u', bs ++ [x']⟩, true) := by
    cases hl : x.hasLog with
    | false =>
      rw [hnl hl] at hf; cases hf
      exact ⟨{ x with marker := true }, hl, by rw [rollbackBranch_noLog hx hl]; simp⟩
    | true =>
      exact ⟨{ x with hasLog := false }, rfl,
        by rw [rollbackBranch_log hx hl, undoBranch_of_fold sc cfg u u' x.b hf]; simp⟩
  -- … then the others, to which it does not matter
  obtain ⟨w', hw', hpt, hlog⟩ := h u' hp'
  refine ⟨⟨w'.t, w'.branches ++ [x']⟩, ?_, hpt, fun b hb => ?_⟩
  · rw [rollbackAll, List.length_append, List.length_singleton, List.range_succ, List.reverse_append,
      List.reverse_singleton, List.singleton_append, List.foldl_cons, hrb,
      foldl_rollback_append [x'] _ _ _ _ fun i hi => by simpa using hi]
    rw [rollbackAll] at hw'
    simp only [Bool.true_and]
    rw [hw']
  · rcases List.mem_append.1 hb with hb | hb
    · exact hlog b hb
    · rw [List.mem_singleton.1 hb]; exact hx'

theorem runLocalTx_rollsBack {t0 : Table} {w w1 : World} {l : LocalTx}
    (ht : WFTable sc w.t) (hs : ∀ p ∈ l, WFStmt sc p.1)
    (hc : RollsBack sc cfg t0 w.branches w.t) (h : runLocalTx sc cfg w l = some w1) :
    WFTable sc w1.t ∧ RollsBack sc cfg t0 w1.branches w1.t := by
  simp only [runLocalTx] at h
  split at h
  · cases h
  · rename_i t' b hl
    obtain ⟨hwf, hrest⟩ := local_restore cfg ht hs hl
    split at h
    · rename_i hemp
      cases h
      cases List.isEmpty_iff.1 hemp
      cases hl
      exact ⟨hwf, hc⟩
    · cases h
      exact ⟨hwf, hc.snoc hrest (by simp [List.isEmpty_iff])⟩

end

end Seata.Lemmas.Store
