/-
  Lemmas for C02 (the AT phase-one trace model, AT/Atomic.lean).

  Two readings of a well-formed trace, each with lemmas for traces of that shape in general; the last section
  says that a well-formed trace has both shapes.
  * `.begin :: mid ++ [.commit]`, nothing in `mid` being a COMMIT, a ROLLBACK or a report: `cut_spec` (what `cut`
    does to any trace) and `exec_tx` give `run_reached` / `run_not_reached`, on which failure, success, atomicity
    and order rest.
  * `a ++ .register :: c` with `a`, `c` runs of database statements (BEGIN, the body, the undo-log insert and
    COMMIT all are `isDb`): `cut` computed run by run says where each fault lands (`cut_tx_register`,
    `cut_tx_after`, `cut_tx_miss`); the closed forms of C02 (`C02_clean_run`, `C02_reached_*`) are these.
-/
import SeataModel.AT.Atomic
namespace Seata.AT.Atomic

theorem cut_db {e : Ev} (he : isDb e = true) (rest : List Ev) (f : Fault) (n : Nat) (reg : Bool) :
    cut (e :: rest) f n reg =
      if f = .db (n + 1) then ([.failed e], reg, true)
      else (e :: (cut rest f (n + 1) reg).1, (cut rest f (n + 1) reg).2.1, (cut rest f (n + 1) reg).2.2) := by
  -- the one case split over `Ev`: the inductions below rewrite with this equation (a split inside them, with
  -- their hypotheses in the context of every `simp`, is slow to check)
  have : isReport e = false ∧ (e == .register) = false ∧ hits f n e = (f == .db (n + 1)) := by
    cases e <;> first | exact ⟨rfl, rfl, rfl⟩ | cases he
  simp [cut, this, he]

theorem cut_register (rest : List Ev) (f : Fault) (n : Nat) (reg : Bool) :
    cut (.register :: rest) f n reg =
      if f = .regRefused ∨ f = .regTransport then ([.failed .register], reg, true)
      else (.register :: (cut rest f n true).1, (cut rest f n true).2.1, (cut rest f n true).2.2) := by
  simp [cut, hits, isReport, isDb]

theorem bodyEv_iff {e : Ev} : bodyEv e = true ↔ e = .sel ∨ e = .biz := by
  cases e <;> simp [bodyEv]

theorem isDb_of_bodyEv {e : Ev} (h : bodyEv e = true) : isDb e = true := by
  rcases bodyEv_iff.mp h with rfl | rfl <;> rfl

/-- the statements of `a` are numbered `n + 1 … n + a.length`; counters are written `_ + n` so that they
    reduce at `n = 0` and the instances need no arithmetic -/
theorem cut_dbs_skip (a tail : List Ev) (f : Fault) (n : Nat) (reg : Bool)
    (ha : ∀ e ∈ a, isDb e = true)
    (hskip : ∀ k, f = .db k → k ≤ n ∨ a.length + n < k) :
    cut (a ++ tail) f n reg =
      (a ++ (cut tail f (a.length + n) reg).1, (cut tail f (a.length + n) reg).2.1,
        (cut tail f (a.length + n) reg).2.2) := by
  induction a generalizing n with
  | nil => simp
  | cons e rest ih =>
    have hne : f ≠ .db (n + 1) := fun h => by have := hskip _ h; simp at this; omega
    rw [List.cons_append, cut_db (ha e (by simp)), if_neg hne,
      ih (n + 1) (fun x hx => ha x (by simp [hx])) (fun k hk => by have := hskip k hk; simp at this; omega)]
    simp [Nat.add_assoc, Nat.add_comm 1]

theorem cut_dbs_hit (a tail : List Ev) (n : Nat) (reg : Bool) (i : Nat)
    (ha : ∀ e ∈ a, isDb e = true) (hi : i < a.length) :
    cut (a ++ tail) (.db (i + n + 1)) n reg = (a.take i ++ [.failed a[i]], reg, true) := by
  induction a generalizing n i with
  | nil => simp at hi
  | cons e rest ih =>
    rw [List.cons_append, cut_db (ha e (by simp))]
    cases i with
    | zero => simp
    | succ j =>
      rw [if_neg (by simp), show j + 1 + n + 1 = j + (n + 1) + 1 by omega,
        ih (n + 1) j (fun x hx => ha x (by simp [hx])) (by simpa using hi)]
      simp

section tx
variable {a c : List Ev} (ha : ∀ e ∈ a, isDb e = true) (hc : ∀ e ∈ c, isDb e = true)
include ha

theorem cut_tx_register (f : Fault) (hf : f = .regRefused ∨ f = .regTransport) :
    cut (a ++ .register :: c) f 0 false = (a ++ [.failed .register], false, true) := by
  rw [cut_dbs_skip a _ f 0 false ha (by rcases hf with rfl | rfl <;> intro k hk <;> cases hk),
    cut_register, if_pos hf]

include hc

theorem cut_tx_after (i : Nat) (hi : i < c.length) :
    cut (a ++ .register :: c) (.db (a.length + i + 1)) 0 false =
      (a ++ .register :: c.take i ++ [.failed c[i]], true, true) := by
  have := cut_dbs_hit c [] a.length true i hc hi
  rw [List.append_nil, Nat.add_comm i] at this
  rw [cut_dbs_skip a _ _ 0 false ha (by intro k hk; cases hk; omega), cut_register, if_neg (by simp)]
  simp [this]

theorem cut_tx_miss (f : Fault) (hf : ∀ k, f = .db k → k = 0 ∨ a.length + c.length < k)
    (hr : f ≠ .regRefused ∧ f ≠ .regTransport) :
    cut (a ++ .register :: c) f 0 false = (a ++ .register :: c, true, false) := by
  have := cut_dbs_skip c [] f a.length true hc (fun k hk => by have := hf k hk; omega)
  rw [List.append_nil] at this
  rw [cut_dbs_skip a _ f 0 false ha (fun k hk => by have := hf k hk; omega), cut_register,
    if_neg (by simp [hr])]
  simp [this, cut]

end tx

theorem reg_acc (reg : Bool) (e : Ev) (l : List Ev) :
    ((reg || e == Ev.register) || l.contains Ev.register) = (reg || (e :: l).contains Ev.register) := by
  rw [List.contains_cons, Bool.or_assoc, BEq.comm]

/-- `hrep`: at a report event `cut` stops without a fault (`run` rebuilds the reports) -/
theorem cut_spec (t : List Ev) (f : Fault) (n : Nat) (reg : Bool) (hrep : ∀ e ∈ t, isReport e = false) :
    cut t f n reg = (t, reg || t.contains .register, false) ∨
    ∃ pre e post, t = pre ++ e :: post ∧
      cut t f n reg = (pre ++ [.failed e], reg || pre.contains .register, true) := by
  induction t generalizing n reg with
  | nil => simp [cut]
  | cons e rest ih =>
    rw [cut, if_neg (by simp [hrep e])]
    by_cases hh : hits f n e = true
    · exact Or.inr ⟨[], e, rest, rfl, by simp [hh]⟩
    · rw [if_neg hh]
      rcases ih (if isDb e then n + 1 else n) (reg || e == .register) (fun x hx => hrep x (by simp [hx]))
        with h | ⟨pre, e', post, rfl, h⟩
      · exact Or.inl (by rw [h, reg_acc])
      · exact Or.inr ⟨e :: pre, e', post, rfl, by rw [h, reg_acc]; rfl⟩

theorem execFrom_append (d : Db) (a b : List Ev) : execFrom d (a ++ b) = execFrom (execFrom d a) b :=
  List.foldl_append ..

theorem step_open (d : Db) (hin : d.inTx = true) {e : Ev} (hc : e ≠ .commit) (hr : e ≠ .rollback) :
    d.step e = { d with pendBiz := d.pendBiz + [e].count .biz, pendUndo := d.pendUndo + [e].count .undo } := by
  obtain ⟨_, _, _, _, _⟩ := d
  cases hin
  cases e <;> first | rfl | contradiction

theorem execFrom_open (t : List Ev) (d : Db) (hin : d.inTx = true) (hc : .commit ∉ t) (hr : .rollback ∉ t) :
    execFrom d t = { d with pendBiz := d.pendBiz + t.count .biz, pendUndo := d.pendUndo + t.count .undo } := by
  induction t generalizing d with
  | nil => rfl
  | cons e rest ih =>
    simp only [List.mem_cons, not_or] at hc hr
    have hs := step_open d hin (Ne.symm hc.1) (Ne.symm hr.1)
    show execFrom (d.step e) rest = _
    rw [ih _ (by rw [hs]; exact hin) hc.2 hr.2, hs]
    simp only [List.count_cons, List.count_nil, Nat.zero_add, Nat.add_assoc, Nat.add_comm (List.count _ rest)]

theorem execFrom_reports (d : Db) (t : List Ev) (h : ∀ e ∈ t, isReport e = true) : execFrom d t = d := by
  induction t with
  | nil => rfl
  | cons e rest ih =>
    have : d.step e = d := by
      have he := h e (by simp)
      cases e <;> first | rfl | cases he
    show execFrom (d.step e) rest = d
    rw [this, ih (fun x hx => h x (by simp [hx]))]

/-- `e` is meant to be the COMMIT or the ROLLBACK that ends the transaction -/
theorem exec_tx (t tail : List Ev) (e : Ev) (hc : .commit ∉ t) (hr : .rollback ∉ t)
    (ht : ∀ x ∈ tail, isReport x = true) :
    exec (.begin :: t ++ e :: tail) =
      Db.step { inTx := true, pendBiz := t.count .biz, pendUndo := t.count .undo } e := by
  show execFrom (Db.step {} .begin) (t ++ e :: tail) = _
  rw [execFrom_append, execFrom_open t _ rfl hc hr]
  show execFrom (Db.step _ e) tail = _
  rw [execFrom_reports _ _ ht]
  simp [Db.step]

theorem reports_shape (ok : Bool) (lost : Nat) :
    (reports ok lost) ≠ [] ∧ (reports ok lost).length ≤ 5 ∧
    (∀ e ∈ reports ok lost, ∃ d, e = .report ok d) ∧
    (lost < 5 → (reports ok lost).getLast? = some (.report ok true)) := by
  unfold reports
  split
  · simp; omega
  · refine ⟨by simp, by simp; omega, ?_, by simp⟩
    simp only [List.mem_append, List.mem_replicate, List.mem_singleton]
    rintro e (⟨-, rfl⟩ | rfl) <;> exact ⟨_, rfl⟩

theorem reports_isReport (ok : Bool) (lost : Nat) : ∀ e ∈ reports ok lost, isReport e = true := by
  intro e he
  obtain ⟨d, rfl⟩ := (reports_shape ok lost).2.2.1 e he
  rfl

theorem split_unique {α} (a : α) (p q p' q' : List α) (hp : a ∉ p') (hq : a ∉ q')
    (h : p ++ a :: q = p' ++ a :: q') : p = p' := by
  rcases List.append_eq_append_iff.mp h with ⟨m, rfl, h'⟩ | ⟨m, rfl, h'⟩ <;> cases m with
  | nil => simp
  | cons x m =>
    obtain ⟨rfl, rfl⟩ := List.cons.inj h'
    simp at hp hq

theorem mem_of_split {α} {p post init : List α} {e c : α} (h : init ++ [c] = p ++ e :: post) :
    ∀ y ∈ p, y ∈ init := by
  have := congrArg List.dropLast h
  rw [List.dropLast_concat, List.dropLast_append_of_ne_nil (by simp)] at this
  intro y hy; rw [this]; exact List.mem_append_left _ hy

section run
variable {mid : List Ev} (hmid : ∀ y ∈ mid, y ≠ .commit ∧ y ≠ .rollback ∧ isReport y = false)
include hmid

theorem tx_no_report {z : Ev} (hz : isReport z = false) : ∀ e ∈ Ev.begin :: mid ++ [z], isReport e = false := by
  intro e he
  have : e = .begin ∨ e ∈ mid ∨ e = z := by simpa using he
  rcases this with rfl | h | rfl
  · rfl
  · exact (hmid e h).2.2
  · exact hz

theorem run_not_reached (f : Fault) (lost : Nat) (h : (cut (.begin :: mid ++ [.commit]) f 0 false).2.2 = false) :
    run (.begin :: mid ++ [.commit]) f lost =
      { trace := .begin :: mid ++ [.commit] ++ (if .register ∈ mid then reports true lost else []),
        error := false } := by
  rcases cut_spec _ f 0 false (tx_no_report hmid (z := .commit) rfl) with hc | ⟨pre, e, post, -, hc⟩
  · simp only [run, hc]; simp
  · rw [hc] at h; cases h

/-- `p` is the run without its reports: everything `C02_failure` claims is read off these four facts -/
theorem run_reached (f : Fault) (lost : Nat) (h : (cut (.begin :: mid ++ [.commit]) f 0 false).2.2 = true) :
    ∃ p, .commit ∉ p ∧ (∀ e ∈ p, isReport e = false) ∧ exec p = {} ∧
      run (.begin :: mid ++ [.commit]) f lost =
        { trace := p ++ (if .register ∈ p then reports false lost else []), error := true } := by
  rcases cut_spec _ f 0 false (tx_no_report hmid (z := .commit) rfl) with hc | ⟨pre, e, post, hsplit, hc⟩
  · rw [hc] at h; cases h
  cases pre with
  | nil =>
    -- BEGIN itself failed
    obtain rfl : Ev.begin = e := by simpa using congrArg List.head? hsplit
    exact ⟨[.failed .begin], by simp, by simp [isReport], rfl, by simp only [run, hc]; simp⟩
  | cons x pre' =>
    simp only [List.cons_append, List.cons.injEq] at hsplit
    obtain ⟨rfl, hsplit⟩ := hsplit
    -- what precedes the failed event precedes the final COMMIT, so it lies in `mid`
    have hin : ∀ y ∈ pre' ++ [.failed e], y ≠ .commit ∧ y ≠ .rollback ∧ isReport y = false := by
      intro y hy
      rcases List.mem_append.mp hy with hy | hy
      · exact hmid y (mem_of_split hsplit y hy)
      · rw [List.mem_singleton.mp hy]; exact ⟨nofun, nofun, rfl⟩
    refine ⟨.begin :: (pre' ++ [.failed e]) ++ [.rollback], ?_, tx_no_report hin rfl, ?_, ?_⟩
    · simpa using fun h => (hin _ h).1 rfl
    · exact exec_tx _ [] .rollback (fun h => (hin _ h).1 rfl) (fun h => (hin _ h).2.1 rfl) (by simp)
    · simp only [run, hc]; simp

end run

/-! a well-formed trace `.begin :: body ++ [.register, .undo, .commit]` has both shapes -/

theorem wf_shape (body : List Ev) :
    Ev.begin :: body ++ [.register, .undo, .commit] = .begin :: (body ++ [.register, .undo]) ++ [.commit] := by
  simp

theorem wf_dbs {body : List Ev} (hb : ∀ e ∈ body, bodyEv e = true) :
    (∀ e ∈ Ev.begin :: body, isDb e = true) ∧ ∀ e ∈ [Ev.undo, Ev.commit], isDb e = true := by
  refine ⟨fun e he => ?_, by decide⟩
  rcases List.mem_cons.mp he with rfl | h
  · rfl
  · exact isDb_of_bodyEv (hb e h)

theorem not_mem_body {body : List Ev} (hb : ∀ e ∈ body, bodyEv e = true) {x : Ev} (hx : bodyEv x = false) :
    x ∉ body := fun h => by rw [hb x h] at hx; cases hx

theorem wf_mid {body : List Ev} (hb : ∀ e ∈ body, bodyEv e = true) :
    ∀ y ∈ body ++ [.register, .undo], y ≠ .commit ∧ y ≠ .rollback ∧ isReport y = false := by
  intro y hy
  simp only [List.mem_append, List.mem_cons, List.not_mem_nil, or_false] at hy
  rcases hy with hy | rfl | rfl
  · rcases bodyEv_iff.mp (hb y hy) with rfl | rfl <;> exact ⟨nofun, nofun, rfl⟩
  all_goals exact ⟨nofun, nofun, rfl⟩

end Seata.AT.Atomic
