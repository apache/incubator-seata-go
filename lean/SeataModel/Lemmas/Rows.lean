/-
  Tables as lists of rows with unique keys, and the pieces statements are made of: `lookup` and selection by
  key, a table in two parts, SET clauses and the loop of INSERT on rows, rows and their images, `undoItem` on
  images that are still current.  What a whole statement does is in Lemmas/Store.lean.  The recurring fact is
  `mem_map_key`: among the rows of a table, belonging to a part of it is decided by the key.
-/
import SeataModel.Lemmas.Validate
namespace Seata.Lemmas.Store
open Seata.DB Seata.AT

section Keyed
variable {α : Type _} {κ : Type _} {f : α → κ} {l : List α}

theorem inj_of_nodup_map (hnd : (l.map f).Nodup) : ∀ x ∈ l, ∀ y ∈ l, f x = f y → x = y := by
  intro x hx y hy hxy
  obtain ⟨i, hi, rfl⟩ := List.getElem_of_mem hx
  obtain ⟨j, hj, rfl⟩ := List.getElem_of_mem hy
  have : i = j := (List.getElem?_inj (by simpa using hi) hnd).1 (by simp [hi, hj, hxy])
  subst this; rfl

theorem mem_map_key (hnd : (l.map f).Nodup) {s : List α} (hs : s ⊆ l) {x : α} (hx : x ∈ l) :
    f x ∈ s.map f ↔ x ∈ s := by
  refine ⟨fun h => ?_, List.mem_map_of_mem⟩
  obtain ⟨y, hy, hxy⟩ := List.mem_map.1 h
  exact inj_of_nodup_map hnd y (hs hy) x hx hxy ▸ hy

theorem nodup_map_filter (p : α → Bool) (hnd : (l.map f).Nodup) : ((l.filter p).map f).Nodup :=
  hnd.sublist (List.filter_sublist.map f)

variable [BEq κ] [LawfulBEq κ]

theorem contains_key_filter (p : α → Bool) (hnd : (l.map f).Nodup) {x : α} (hx : x ∈ l) :
    ((l.filter p).map f).contains (f x) = p x := by
  rw [Bool.eq_iff_iff, List.contains_iff_mem, mem_map_key hnd List.filter_sublist.subset hx, List.mem_filter]
  exact and_iff_right hx

theorem find?_key (hnd : (l.map f).Nodup) {x : α} (hx : x ∈ l) : l.find? (fun y => f y == f x) = some x := by
  cases h : l.find? (fun y => f y == f x) with
  | none => exact absurd (beq_self_eq_true _) (List.find?_eq_none.1 h x hx)
  | some y =>
    rw [inj_of_nodup_map hnd y (List.mem_of_find?_eq_some h) x hx (by simpa using List.find?_some h)]

theorem map_eq_self {g : α → α} (h : ∀ a ∈ l, g a = a) : l.map g = l := by
  have := List.map_congr_left h; rwa [List.map_id'] at this

end Keyed

section Table
variable {sc : Schema} {t : Table} {k : Key}

theorem lookup_isSome : (lookup sc t k).isSome = true ↔ k ∈ t.map (keyOf sc) := by
  simp only [lookup, List.find?_isSome, List.mem_map, beq_iff_eq]

theorem lookup_eq_none : lookup sc t k = none ↔ k ∉ t.map (keyOf sc) := by
  rw [← lookup_isSome, Option.not_isSome_iff_eq_none]

theorem lookup_of_mem (hu : PkUnique sc t) {r : Row} (hr : r ∈ t) : lookup sc t (keyOf sc r) = some r :=
  find?_key hu hr

theorem lookup_eq_head? : lookup sc t k = (t.filter fun r => keyOf sc r == k).head? :=
  List.head?_filter.symm

/-- `lookup` sees only the rows under the key: what leaves those alone leaves `lookup` alone -/
theorem lookup_congr {t' : Table}
    (h : (t'.filter fun r => keyOf sc r == k) = t.filter fun r => keyOf sc r == k) :
    lookup sc t' k = lookup sc t k := by
  rw [lookup_eq_head?, lookup_eq_head?, h]

variable {g : Row → Row} {l : List Row}

theorem map_keys (hkey : ∀ r ∈ l, keyOf sc (g r) = keyOf sc r) : (l.map g).map (keyOf sc) = l.map (keyOf sc) := by
  rw [List.map_map]; exact List.map_congr_left hkey

theorem filter_key_map (q : Key → Bool) (hkey : ∀ r ∈ l, keyOf sc (g r) = keyOf sc r) :
    (l.map g).filter (fun r => q (keyOf sc r)) = (l.filter fun r => q (keyOf sc r)).map g := by
  rw [List.filter_map]
  exact congrArg _ (List.filter_congr fun r hr => congrArg q (hkey r hr))

/-- the after image of an UPDATE: the rows now stored under the keys of the selected rows -/
theorem after_image (m : Row → Bool) (hkey : ∀ r ∈ t, keyOf sc (g r) = keyOf sc r) (hu : PkUnique sc t) :
    (t.map g).filter (fun r => ((t.filter m).map (keyOf sc)).contains (keyOf sc r)) = (t.filter m).map g := by
  rw [filter_key_map (List.contains _) hkey]
  exact congrArg _ (List.filter_congr fun r hr => contains_key_filter m hu hr)

variable {a b : List Row}

theorem pkUnique_append : PkUnique sc (a ++ b) ↔
    PkUnique sc a ∧ PkUnique sc b ∧ ∀ r ∈ b, keyOf sc r ∉ a.map (keyOf sc) := by
  rw [PkUnique, List.map_append, List.nodup_append]
  refine and_congr_right fun _ => and_congr_right fun _ => ⟨fun h r hr hm => h _ hm _ (List.mem_map_of_mem hr) rfl, ?_⟩
  rintro h x hx _ hy rfl
  obtain ⟨r, hr, rfl⟩ := List.mem_map.1 hy
  exact h r hr hx

theorem key_not_mem_right (hu : PkUnique sc (a ++ b)) {r : Row} (hr : r ∈ a) : keyOf sc r ∉ b.map (keyOf sc) := by
  intro h
  obtain ⟨r', hr', e⟩ := List.mem_map.1 h
  exact (pkUnique_append.1 hu).2.2 r' hr' (e ▸ List.mem_map_of_mem hr)

theorem filter_keys_append (hu : PkUnique sc (a ++ b)) :
    (a ++ b).filter (fun r => (b.map (keyOf sc)).contains (keyOf sc r)) = b ∧
    (a ++ b).filter (fun r => !(b.map (keyOf sc)).contains (keyOf sc r)) = a := by
  have ha : ∀ r ∈ a, (b.map (keyOf sc)).contains (keyOf sc r) = false := fun r hr => by
    simpa using key_not_mem_right hu hr
  have hb : ∀ r ∈ b, (b.map (keyOf sc)).contains (keyOf sc r) = true := fun r hr =>
    List.contains_iff_mem.2 (List.mem_map_of_mem hr)
  constructor <;> rw [List.filter_append]
  · rw [List.filter_eq_nil_iff.2 fun r hr => by rw [ha r hr]; exact Bool.false_ne_true,
      List.filter_eq_self.2 hb, List.nil_append]
  · rw [List.filter_eq_self.2 fun r hr => by rw [ha r hr]; rfl,
      List.filter_eq_nil_iff.2 fun r hr => by rw [hb r hr]; exact Bool.false_ne_true, List.append_nil]

/-! `lookup` under the three things statements do to a table -/

theorem lookup_map (sc : Schema) (t : Table) (g : Row → Row) (k : Key)
    (hkey : ∀ r ∈ t, keyOf sc (g r) = keyOf sc r) (hfix : ∀ r ∈ t, keyOf sc r = k → g r = r) :
    lookup sc (t.map g) k = lookup sc t k := by
  apply lookup_congr
  rw [filter_key_map (· == k) hkey]
  exact map_eq_self fun r hr => hfix r (List.mem_filter.1 hr).1 (by simpa using (List.mem_filter.1 hr).2)

theorem lookup_delete (sc : Schema) (t : Table) (m : Row → Bool) (k : Key)
    (hk : k ∉ (t.filter m).map (keyOf sc)) :
    lookup sc (t.filter fun r => !m r) k = lookup sc t k := by
  apply lookup_congr
  rw [List.filter_filter]
  refine List.filter_congr fun r hr => ?_
  cases hm : m r with
  | false => simp
  | true =>
    have : keyOf sc r ≠ k := fun e => hk (e ▸ List.mem_map_of_mem (List.mem_filter.2 ⟨hr, hm⟩))
    simp [this]

theorem lookup_insert (sc : Schema) (t news : Table) (k : Key)
    (hk : k ∉ news.map (keyOf sc)) :
    lookup sc (t ++ news) k = lookup sc t k := by
  apply lookup_congr
  rw [List.filter_append, (List.filter_eq_nil_iff (l := news)).2, List.append_nil]
  exact fun r hr e => hk (beq_iff_eq.1 e ▸ List.mem_map_of_mem hr)

end Table

theorem pkUnique_snoc {sc : Schema} {t : Table} {r : Row} (hu : PkUnique sc t)
    (hr : keyOf sc r ∉ t.map (keyOf sc)) : PkUnique sc (t ++ [r]) :=
  pkUnique_append.2 ⟨hu, List.pairwise_singleton _ _, fun _ hx => List.mem_singleton.1 hx ▸ hr⟩

theorem apply_go_some (sc : Schema) : ∀ (news : List Row) (t t' : Table), apply.go sc t news = some t' →
    PkUnique sc t → t' = t ++ news ∧ PkUnique sc (t ++ news) := by
  intro news
  induction news with
  | nil => intro t t' h hu; cases h; simpa using hu
  | cons r rs ih =>
    intro t t' h hu
    simp only [apply.go] at h
    split at h
    · cases h
    · rename_i hlk
      have := ih _ _ h (pkUnique_snoc hu (mt lookup_isSome.2 hlk))
      rwa [List.append_assoc] at this

theorem row_ext (r r' : Row) (hl : r.length = r'.length)
    (h : ∀ j, j < r.length → r.getD j .null = r'.getD j .null) : r = r' := by
  apply List.ext_getElem hl
  intro j h1 h2
  have := h j h1
  simpa [List.getD_eq_getElem?_getD, h1, h2] using this

theorem getD_set (r : Row) (i j : Nat) (v : Val) :
    (r.set i v).getD j .null = if i = j ∧ i < r.length then v else r.getD j .null := by
  simp only [List.getD_eq_getElem?_getD, List.getElem?_set]
  by_cases hij : i = j
  · subst hij
    by_cases hl : i < r.length <;> simp [hl]
  · simp [hij]

theorem keyOf_congr (sc : Schema) (r r' : Row)
    (h : ∀ i ∈ sc.pk, r.getD i .null = r'.getD i .null) : keyOf sc r = keyOf sc r' :=
  List.map_congr_left h

theorem foldl_set_length {β : Type _} (ix : β → Nat) (v : Row → β → Val) (l : List β) (r : Row) :
    (l.foldl (fun acc p => acc.set (ix p) (v acc p)) r).length = r.length := by
  induction l generalizing r with
  | nil => rfl
  | cons p ps ih => rw [List.foldl_cons, ih, List.length_set]

theorem foldl_set_getD {β : Type _} (ix : β → Nat) (v : Row → β → Val) (l : List β) (r : Row) (j : Nat)
    (hj : j ∉ l.map ix) : (l.foldl (fun acc p => acc.set (ix p) (v acc p)) r).getD j .null = r.getD j .null := by
  induction l generalizing r with
  | nil => rfl
  | cons p ps ih =>
    simp only [List.map_cons, List.mem_cons, not_or] at hj
    rw [List.foldl_cons, ih _ hj.2, getD_set, if_neg fun h => hj.1 h.1.symm]

theorem foldl_set_keyOf {β : Type _} (sc : Schema) (ix : β → Nat) (v : Row → β → Val) (l : List β) (r : Row)
    (h : ∀ p ∈ l, ix p ∉ sc.pk) : keyOf sc (l.foldl (fun acc p => acc.set (ix p) (v acc p)) r) = keyOf sc r :=
  keyOf_congr sc _ _ fun i hi => foldl_set_getD ix v l r i fun hmem => by
    obtain ⟨p, hp, rfl⟩ := List.mem_map.1 hmem
    exact h p hp hi

theorem applySets_length (args : Args) (sets : List (Nat × SetE)) (r : Row) :
    (applySets args sets r).length = r.length :=
  foldl_set_length (β := Nat × SetE) (·.1) (fun acc p => evalSet acc args p.2) sets r

theorem applySets_getD (args : Args) (sets : List (Nat × SetE)) (r : Row) (j : Nat)
    (hj : j ∉ sets.map (·.1)) : (applySets args sets r).getD j .null = r.getD j .null :=
  foldl_set_getD (β := Nat × SetE) (·.1) (fun acc p => evalSet acc args p.2) sets r j hj

theorem applySets_keyOf (sc : Schema) (args : Args) (sets : List (Nat × SetE)) (r : Row)
    (h : ∀ p ∈ sets, p.1 ∉ sc.pk) : keyOf sc (applySets args sets r) = keyOf sc r :=
  foldl_set_keyOf sc (β := Nat × SetE) (·.1) (fun acc p => evalSet acc args p.2) sets r h

theorem setCells_length (r : Row) (cells : List (Nat × Val)) (pk : List Nat) :
    (setCells r cells pk).length = r.length := by
  unfold setCells
  induction cells generalizing r with
  | nil => rfl
  | cons p ps ih =>
    simp only [List.foldl_cons]
    rw [ih]
    split <;> simp

theorem setCells_project_getD (r : Row) (cols pk : List Nat) (acc : Row) (j : Nat) :
    (setCells acc (cols.map fun c => (c, r.getD c .null)) pk).getD j .null =
      if j ∈ cols ∧ j ∉ pk ∧ j < acc.length then r.getD j .null else acc.getD j .null := by
  unfold setCells
  induction cols generalizing acc with
  | nil => simp
  | cons c cs ih =>
    rw [List.map_cons, List.foldl_cons, ih]
    by_cases hc : c ∈ pk <;> by_cases hjc : c = j
    · subst hjc; simp [hc]
    · simp [hc, Ne.symm hjc]
    · subst hjc; by_cases hl : c < acc.length <;> by_cases hm : c ∈ cs <;> simp [hc, hl, hm]
    · simp [hc, hjc, Ne.symm hjc]

/-- the compensation of an UPDATE on one row; `h`: `r'` differs from `r` only in tracked non-key columns -/
theorem setCells_restore (sc : Schema) (cols : List Nat) (r r' : Row) (hl : r'.length = r.length)
    (h : ∀ j, j < r.length → (j ∈ cols ∧ j ∉ sc.pk) ∨ r'.getD j .null = r.getD j .null) :
    setCells r' (project sc cols r).cells sc.pk = r := by
  apply row_ext
  · rw [setCells_length, hl]
  · intro j hj
    rw [setCells_length] at hj
    simp only [project]
    rw [setCells_project_getD]
    rcases h j (hl ▸ hj) with ⟨h1, h2⟩ | h3
    · simp [h1, h2, hj]
    · split
      · rfl
      · exact h3

theorem find?_cells (cols : List Nat) (f : Nat → Val) (c : Nat) :
    (cols.map fun c => (c, f c)).find? (fun q => q.1 == c) = if c ∈ cols then some (c, f c) else none := by
  induction cols with
  | nil => simp
  | cons a as ih =>
    simp only [List.map_cons, List.find?_cons]
    by_cases hac : a = c
    · subst hac; simp
    · have h1 : (a == c) = false := by simp [hac]
      have h2 : ¬ (c = a) := fun h => hac h.symm
      simp [h1, h2, ih]

/-- the row re-inserted by the compensation of a DELETE is the deleted row -/
theorem rebuild_row (sc : Schema) (r : Row) (hl : r.length = sc.ncols) :
    ((List.range sc.ncols).map fun c =>
      (((project sc (allCols sc) r).cells.find? (·.1 == c)).map (·.2)).getD .null) = r := by
  apply row_ext
  · simp [hl]
  · intro j hj
    simp only [List.length_map, List.length_range] at hj
    simp only [project, allCols, find?_cells]
    simp [List.getD_eq_getElem?_getD, hj]

theorem cellsEq_project (sc : Schema) (cols : List Nat) (r r' : Row) :
    cellsEq (project sc cols r).cells (project sc cols r').cells = true ↔
      ∀ c ∈ cols, r'.getD c .null = r.getD c .null := by
  simp only [cellsEq, project, List.all_eq_true, List.mem_map, find?_cells]
  constructor
  · intro h c hc
    have := h (c, r.getD c .null) ⟨c, hc, rfl⟩
    simpa [hc] using this
  · rintro h p ⟨c, hc, rfl⟩
    simp only [hc, if_true, Option.map_some, h c hc]
    simp

theorem project_key (sc : Schema) (cols : List Nat) (r : Row) : (project sc cols r).key = keyOf sc r := rfl

theorem map_project_keys (sc : Schema) (cols : List Nat) (l : List Row) :
    (l.map (project sc cols)).map (·.key) = l.map (keyOf sc) := by
  simp [List.map_map, Function.comp_def, project_key]

theorem find?_project (sc : Schema) (cols : List Nat) (l : List Row) (k : Key) :
    (l.map (project sc cols)).find? (fun n => n.key == k) = (lookup sc l k).map (project sc cols) := by
  rw [List.find?_map]; rfl

theorem recordsEq_project (sc : Schema) (cols : List Nat) (l cur : List Row) :
    recordsEq (l.map (project sc cols)) (cur.map (project sc cols)) = true ↔
      l.length = cur.length ∧ ∀ r ∈ l, ∃ r', lookup sc cur (keyOf sc r) = some r' ∧
        ∀ c ∈ cols, r'.getD c .null = r.getD c .null := by
  simp only [recordsEq, Bool.and_eq_true, List.length_map, beq_iff_eq, List.all_eq_true, List.forall_mem_map,
    project_key, find?_project]
  refine and_congr_right fun _ => forall₂_congr fun r _ => ?_
  cases lookup sc cur (keyOf sc r) with
  | none => simp
  | some r' => simp [cellsEq_project]

theorem recordsEq_perm (sc : Schema) (cols : List Nat) (l cur : List Row)
    (hnd : (l.map (keyOf sc)).Nodup) (hp : cur.Perm l) :
    recordsEq (l.map (project sc cols)) (cur.map (project sc cols)) = true :=
  (recordsEq_project sc cols l cur).2 ⟨hp.length_eq.symm, fun r hr =>
    ⟨r, lookup_of_mem ((hp.map _).nodup_iff.2 hnd) (hp.mem_iff.2 hr), fun _ _ => rfl⟩⟩

/-- images equal before and after a rewriting `f` of the rows: `f` changed no tracked column -/
theorem recordsEq_map (sc : Schema) (cols : List Nat) (l : List Row) (f : Row → Row)
    (hnd : (l.map (keyOf sc)).Nodup) (hk : ∀ r ∈ l, keyOf sc (f r) = keyOf sc r)
    (h : recordsEq (l.map (project sc cols)) ((l.map f).map (project sc cols)) = true) :
    ∀ r ∈ l, ∀ c ∈ cols, (f r).getD c .null = r.getD c .null := by
  intro r hr
  obtain ⟨r', hr', hc⟩ := ((recordsEq_project sc cols l _).1 h).2 r hr
  rw [← hk r hr, lookup_of_mem (by rw [PkUnique, map_keys hk]; exact hnd) (List.mem_map_of_mem hr)] at hr'
  cases hr'; exact hc

theorem currentOf_project (sc : Schema) (cols : List Nat) (t : Table) (l : List Row) (hl : l ≠ []) :
    currentOf sc t (l.map (project sc cols)) =
      (t.filter fun r => (l.map (keyOf sc)).contains (keyOf sc r)).map (project sc cols) := by
  cases l with
  | nil => exact absurd rfl hl
  | cons a as =>
    simp only [currentOf, map_project_keys]
    simp [project, List.map_map, Function.comp_def]

theorem validate_of_current (sc : Schema) (cfg : Cfg) (t : Table) (it : Item) (rows : List IRow)
    (h : recordsEq it.after (currentOf sc t rows) = true) :
    validate sc cfg t it rows = if cfg.validate && recordsEq it.before it.after then .skip else .goOn := by
  unfold validate
  cases cfg.validate <;> cases recordsEq it.before it.after <;> simp [h]

/-- the compensating UPDATE, row by row: what `undoItem` maps over the table for an UPDATE item -/
def undoUpd (sc : Schema) (before : List IRow) (r : Row) : Row :=
  match before.find? (fun b => b.key == keyOf sc r) with
  | some b => setCells r b.cells sc.pk
  | none => r

theorem undoItem_update (sc : Schema) (cfg : Cfg) (u : Table) (before after : List IRow)
    (hcur : recordsEq after (currentOf sc u after) = true) (hne : before ≠ []) :
    undoItem sc cfg u ⟨.update, before, after⟩ =
      if cfg.validate && recordsEq before after then (u, .skipped)
      else (u.map (undoUpd sc before), .done) := by
  have hemp : before.isEmpty = false := by simpa [List.isEmpty_iff] using hne
  simp only [undoItem]
  rw [validate_of_current sc cfg u _ _ hcur]
  cases cfg.validate && recordsEq before after
  · simp only [hemp, Bool.false_eq_true, if_false]; rfl
  · rfl

theorem undoItem_insert (sc : Schema) (cfg : Cfg) (u : Table) (after : List IRow)
    (hcur : recordsEq after (currentOf sc u after) = true) (hne : after ≠ []) :
    undoItem sc cfg u ⟨.insert, [], after⟩ =
      (u.filter fun r => !(after.map (·.key)).contains (keyOf sc r), .done) := by
  have hemp : after.isEmpty = false := by simpa [List.isEmpty_iff] using hne
  have hrec : recordsEq [] after = false := by
    cases after with
    | nil => exact absurd rfl hne
    | cons a as => rfl
  simp only [undoItem]
  rw [validate_of_current sc cfg u _ _ hcur]
  simp only [hrec, Bool.and_false, Bool.false_eq_true, if_false, hemp]

theorem undoItem_delete (sc : Schema) (cfg : Cfg) (u : Table) (before : List IRow)
    (hcur : currentOf sc u before = []) (hne : before ≠ []) :
    undoItem sc cfg u ⟨.delete, before, []⟩ =
      let rows : List Row := before.map fun b => (List.range sc.ncols).map fun c => ((b.cells.find? (·.1 == c)).map (·.2)).getD .null
      if rows.any fun r => (lookup sc u (keyOf sc r)).isSome then (u, .sqlError) else (u ++ rows, .done) := by
  have hemp : before.isEmpty = false := by simpa [List.isEmpty_iff] using hne
  have hval : validate sc cfg u ⟨.delete, before, []⟩ before = .goOn := by
    cases before with
    | nil => exact absurd rfl hne
    | cons a as => simp only [validate, hcur]; cases cfg.validate <;> simp [recordsEq]
  simp only [undoItem, hval, hemp, Bool.false_eq_true, if_false]

end Seata.Lemmas.Store
