/-
  `splitOn` and `joinWith` of SeataModel/AT/KeyText.lean are the general ones of Lemmas/Split.lean at `Char`.
-/
import SeataModel.AT.KeyText
import SeataModel.Lemmas.Split
namespace Seata.Lemmas.KeyText
open Seata.AT.KeyText

theorem splitOn_eq (sep : Char) (l : List Char) : splitOn sep l = Split.splitOn sep l := by
  induction l with
  | nil => rfl
  | cons c r ih =>
    rw [splitOn, Split.splitOn, ih]
    -- the two sides now differ only in the auxiliary `match` function they name, which `rfl` does not unfold
    -- while the list matched on is not a constructor
    cases Split.splitOn sep r <;> rfl

theorem joinWith_eq (sep : Char) (parts : List (List Char)) : joinWith sep parts = Split.joinWith sep parts := by
  induction parts with
  | nil => rfl
  | cons p r ih =>
    cases r with
    | nil => rfl
    | cons q r' => simp only [joinWith, Split.joinWith, ih]

/-- the remark in AT/KeyText.lean that the `[]` branch of `splitOn`'s inner `match` is unreachable, proved -/
theorem splitOn_ne_nil (sep : Char) (l : List Char) : splitOn sep l ≠ [] := by
  rw [splitOn_eq]; exact Split.splitOn_ne_nil sep l

theorem splitOn_joinWith (sep : Char) (parts : List (List Char)) (hne : parts ≠ [])
    (h : ∀ p ∈ parts, sep ∉ p) : splitOn sep (joinWith sep parts) = parts := by
  rw [joinWith_eq, splitOn_eq]; exact Split.splitOn_joinWith sep parts hne h

end Seata.Lemmas.KeyText
