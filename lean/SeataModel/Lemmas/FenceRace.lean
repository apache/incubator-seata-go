/- Behind C06_race_serializable.  A schedule moves the race only while it picks a transaction that has not
   finished, and no race makes more than seven such moves, so the states that ANY schedule reaches form a small
   tree (at most 37 nodes for each of the 5 states x 9 phase pairs, 735 in all).  `always` walks that tree,
   `always_sound` says that the walk speaks for every schedule, and the kernel evaluates the walk once
   (`decide +kernel`: no axiom beyond propext, no native code). -/
import SeataModel.TCC.FenceRace
namespace Seata.Lemmas.FenceRace
open Seata.Fence Seata.Fence.Race

/-- the transaction that `w` picks has finished -/
def idle (s : St) (w : Bool) : Bool := if w then s.a.done.isSome else s.b.done.isSome

theorem step_done {me : Tx} (h : me.done.isSome) (other : Tx) (db : BranchSt) : step me other db = (me, db) := by
  unfold step; cases hd : me.done <;> simp_all

theorem sched_idle {s : St} {w : Bool} (h : idle s w) : sched s w = s := by
  cases w <;> simp_all [idle, sched, step_done]

/-- `P` holds of `s` and of every state that scheduling unfinished transactions leads to from `s`, and fewer
    than `n` such moves are possible in a row -/
def always (P : St → Bool) : Nat → St → Bool
  | 0, _ => false
  | n + 1, s => P s && [true, false].all fun w => idle s w || always P n (sched s w)

theorem always_succ {P : St → Bool} {n : Nat} {s : St} :
    always P (n + 1) s = true ↔ P s = true ∧ ∀ w, idle s w = true ∨ always P n (sched s w) = true := by
  simp [always, and_comm]

theorem always_sound {P : St → Bool} {n : Nat} {s : St} (h : always P n s = true) (ws : List Bool) :
    P (ws.foldl sched s) = true := by
  induction ws generalizing n s with
  | nil =>
    cases n with
    | zero => cases h
    | succ n => exact (always_succ.1 h).1
  | cons w ws ih =>
    cases n with
    | zero => cases h
    | succ n =>
      -- an idle choice changes nothing (same `n`, same `s`); a move is what the walk has followed
      rcases (always_succ.1 h).2 w with hw | hw
      · rw [List.foldl_cons, sched_idle hw]; exact ih h
      · exact ih hw

/-- run to its end from `s`, the race has one of the allowed outcomes -/
def ends (pa pb : Phase) (db : BranchSt) (s : St) : Bool :=
  (allowed pa pb db).contains ((finish s).db, (finish s).a.done, (finish s).b.done)

/-- depth 8: the seven moves a race makes at most, and the node they end in -/
theorem always_ends : (states.all fun db => phases.all fun pa => phases.all fun pb =>
    always (ends pa pb db) 8 { a := { phase := pa }, b := { phase := pb }, db := db }) = true := by
  decide +kernel

theorem mem_phases (p : Phase) : p ∈ phases := by cases p <;> decide

/-- for schedules of every length -/
theorem outcome_mem_allowed {db : BranchSt} (hdb : db ∈ states) (pa pb : Phase) (ws : List Bool) :
    outcome pa pb db ws ∈ allowed pa pb db := by
  have h := always_ends
  simp only [List.all_eq_true] at h
  have h := h db hdb pa (mem_phases pa) pb (mem_phases pb)
  simpa [ends, outcome, runSched] using always_sound h ws

end Seata.Lemmas.FenceRace
