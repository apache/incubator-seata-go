/-
  The wire codec (Codec/Layout.lean), field by field: a field that is within its width is decoded to its normal
  form (`decodeF_encodeF`); the induction over a layout is `C12_roundtrip`.
-/
import SeataModel.Codec.V1Table
namespace Seata.Codec

theorem getStr_put (w : Nat) (b rest : Bytes) (h : b.length < 256 ^ w) :
    getStr w (putBE w b.length ++ b ++ rest) = some (b, rest) := by
  unfold getStr
  rw [List.append_assoc, getBE_putBE_lt _ _ _ h]
  simp

/-- the `% 256 ^ 8` is what `getBE_putBE` leaves on the value read back -/
theorem i64_roundtrip (i : Int) (h1 : -9223372036854775808 ≤ i) (h2 : i < 9223372036854775808) :
    natToI64 (i64ToNat i % 256 ^ 8) = i := by
  unfold natToI64 i64ToNat
  have hp : (256:Nat) ^ 8 = 18446744073709551616 := by decide
  rw [hp]
  omega

theorem decodeF_encodeF (f : Bool) (fd : Field) (v : FVal) (rest : Bytes)
    (hwf : wfF fd = true) (hin : withinF fd v = true) :
    decodeF f fd (encodeF f fd v ++ rest) = some (normalizeF f fd v, rest) := by
  cases fd <;> cases v <;> simp [withinF] at hin <;> simp only [encodeF, decodeF, normalizeF]
  case i64.int i => rw [getBE_putBE, Option.map_some, i64_roundtrip i hin.1 hin.2]
  case str.bytes w b => rw [getStr_put w b rest hin]; rfl
  case msg.bytes w cap b =>
    cases f
    · rfl
    · have hl : (b.take cap).length < 256 ^ w :=
        Nat.lt_of_le_of_lt (List.length_take_le cap b) (by simpa [wfF] using hwf)
      simp only [if_true]
      rw [getStr_put w _ rest hl]; rfl
  case bool8.bool b => cases b <;> simp [getBE_putBE]
  case bool16.bool b => cases b <;> simp [getBE_putBE]
  -- the unsigned fields: the value is below the field's width
  all_goals rw [getBE_putBE_lt _ _ _ (by simpa using hin)]; rfl

/-- so the decoder carries the same `failed` flag along the layout as the encoder did -/
theorem nextFailed_normalize (f : Bool) (fd : Field) (v : FVal) :
    nextFailed f fd (normalizeF f fd v) = nextFailed f fd v := by
  cases fd <;> cases v <;> simp [nextFailed, normalizeF]
  all_goals (split <;> rfl)

end Seata.Codec
