/-
  The undo-log encoding is lossless on supported values: base64 (`b64dec_b64enc`), the cells of the value table
  that rest on a fact (`rt_int`, `rt_str_char`, …) under the whole table (`rt_supported`), the lifting of a
  per-column round trip through rows and images (`mapE_ok`, `rtCol_ok`, `rtImage_ok`, `rtOpt_ok`; the log is
  `C08_lossless_partial`), and that the model's split / join of the context text are those of Lemmas/Split.lean.
-/
import SeataModel.UndoLog.Log
import SeataModel.Lemmas.Codec
import SeataModel.Lemmas.Split
namespace Seata.UndoLog

theorem timeOfText_marshal (ns : Int) (h1 : -9223372036854775808 ≤ ns) (h2 : ns < 9223372036854775808) :
    timeOfText (putBE 8 (ns % 18446744073709551616).toNat) = some ns := by
  unfold timeOfText
  rw [← List.append_nil (putBE 8 _), getBE_putBE]
  -- what is left is the two's-complement round trip of the wire codec's `i64` field
  exact congrArg some (Codec.i64_roundtrip ns h1 h2)

theorem b64val_b64char : ∀ n, n < 64 → b64val (b64char n) = some n := by decide +kernel

theorem b64val_digit (n : Nat) : b64val (b64char (n % 64)) = some (n % 64) :=
  b64val_b64char _ (Nat.mod_lt _ (by decide))

/-- a digit is never the padding `=`, which has no value -/
theorem b64char_ne61 (n : Nat) : b64char (n % 64) ≠ 61 := fun e => by
  have := b64val_digit n; rw [e] at this; cases this

/-- the base-64 digits of a 24-bit group give the group back; the low two digits may stay undivided
    (a one-byte group, whose low 12 bits are zero, is decoded from the high two alone) -/
theorem digits64 (n : Nat) (h : n < 16777216) :
    n / 262144 % 64 * 262144 + n / 4096 % 64 * 4096 + n % 4096 = n ∧
    n / 262144 % 64 * 262144 + n / 4096 % 64 * 4096 + n / 64 % 64 * 64 + n % 64 = n := by
  have h3 := Nat.mod_mul (x := n) (a := 262144) (b := 64)
  have h2 := Nat.mod_mul (x := n) (a := 4096) (b := 64)
  have h1 := Nat.mod_mul (x := n) (a := 64) (b := 64)
  rw [Nat.mod_eq_of_lt h] at h3
  -- linear once the digits are atoms (omega is slow on nested `/` and `%`)
  generalize n / 262144 % 64 = x at *
  generalize n / 4096 % 64 = y at *
  generalize n / 64 % 64 = z at *
  omega

theorem group_bytes (a b c : UInt8) (n : Nat) (hn : n = a.toNat * 65536 + b.toNat * 256 + c.toNat) :
    n < 16777216 ∧ n / 65536 % 256 = a.toNat ∧ n / 256 % 256 = b.toNat ∧ n % 256 = c.toNat := by
  have ha := UInt8.toNat_lt a
  have hb := UInt8.toNat_lt b
  have hc := UInt8.toNat_lt c
  omega

/-- base64: decoding what was encoded gives the bytes back, for every byte string -/
theorem b64dec_b64enc (b : Bytes) : b64dec (b64enc b) = some b := by
  match b with
  | [] => rfl
  | [a] =>
    -- the group `a * 65536` has its low 12 bits zero, so the two digits written are all of it.
    -- (`hz` comes before `group_bytes`: omega reads every hypothesis, and those with `/` and `%` are dear)
    have hz : a.toNat * 65536 % 4096 = 0 := by omega
    obtain ⟨hn, h1, -⟩ := group_bytes a 0 0 (a.toNat * 65536) (by simp)
    have hd := (digits64 _ hn).1
    rw [hz, Nat.add_zero] at hd
    simp only [b64enc]
    rw [b64dec]
    simp only [b64val_digit, Option.bind_eq_bind, Option.bind_some, Option.pure_def, hd, h1, UInt8.ofNat_toNat]
  | [a, b] =>
    -- likewise: the low 6 bits are zero, three digits are all of the group
    have hz : (a.toNat * 65536 + b.toNat * 256) % 64 = 0 := by omega
    obtain ⟨hn, h1, h2, -⟩ := group_bytes a b 0 (a.toNat * 65536 + b.toNat * 256) (by simp)
    have hd := (digits64 _ hn).2
    rw [hz, Nat.add_zero] at hd
    simp only [b64enc]
    rw [b64dec]
    · simp only [b64val_digit, Option.bind_eq_bind, Option.bind_some, Option.pure_def, hd, h1, h2, UInt8.ofNat_toNat]
    · exact b64char_ne61 _
  | a :: b :: c :: r =>
    obtain ⟨hn, h1, h2, h3⟩ := group_bytes a b c _ rfl
    simp only [b64enc]
    rw [b64dec]
    · simp only [b64val_digit, Option.bind_eq_bind, Option.bind_some, Option.pure_def, b64dec_b64enc r,
        (digits64 _ hn).2, h1, h2, h3, UInt8.ofNat_toNat]
    -- the last digit is not the padding, so the group is not one of the two padded forms
    · intro _ h _; exact b64char_ne61 _ h
    · intro h _; exact b64char_ne61 _ h

theorem undoEq_refl (v : GoVal) : undoEq v v = true := by cases v <;> simp [undoEq]

section cells
variable (ser : Serializer) (jdbc : Int)
attribute [local simp] roundtripVal marshalJson marshalVal unmarshalJson unmarshalPb unmarshalC

theorem rt_int {bits : Nat} (hc : classOf jdbc = .intN bits) (i : Int) (h : intKept bits i = true) :
    roundtripVal ser jdbc (.int i) = .ok (.int i) := by
  cases ser <;> simp [hc, h]

theorem rt_str_char (hc : classOf jdbc = .char) (s : Bytes) :
    roundtripVal ser jdbc (.str s) = .ok (.str s) := by
  cases ser <;> cases hb : b64dec s <;> simp [hc, hb, b64dec_b64enc]

theorem rt_str_bin (hc : classOf jdbc = .bin) (s : Bytes) (h : b64dec s = none) :
    roundtripVal ser jdbc (.str s) = .ok (.bytes s) := by
  cases ser <;> simp [hc, h]

theorem rt_bytes_bin (hc : classOf jdbc = .bin) (b : Bytes) :
    roundtripVal ser jdbc (.bytes b) = .ok (.bytes b) := by
  cases ser <;> simp [hc, b64dec_b64enc]

theorem rt_bytes_char (hc : classOf jdbc = .char) (b : Bytes) :
    roundtripVal .json jdbc (.bytes b) = .ok (.str b) := by
  simp [hc, b64dec_b64enc]

theorem rt_time (hc : classOf jdbc = .time) (ns : Int)
    (h1 : -9223372036854775808 ≤ ns) (h2 : ns < 9223372036854775808) :
    roundtripVal ser jdbc (.time ns) = .ok (.time ns) := by
  cases ser <;> simp [hc, timeOfText_marshal ns h1 h2]

theorem rt_supported (v : GoVal) (h : supported ser jdbc v = true) :
    ∃ v', roundtripVal ser jdbc v = .ok v' ∧ undoEq v' v = true := by
  -- `Bool.false_eq_true` closes the cells outside `supported` here; left to the `rfl` at the end they would fail, slowly
  cases v <;> cases hc : classOf jdbc <;> simp only [supported, hc, Bool.false_eq_true] at h
  -- the cells that rest on a fact: a base64 or time round trip, the `intKept` test
  case int.intN => exact ⟨_, rt_int ser jdbc hc _ h, undoEq_refl _⟩
  case str.char => exact ⟨_, rt_str_char ser jdbc hc _, undoEq_refl _⟩
  case str.bin => exact ⟨_, rt_str_bin ser jdbc hc _ (by simpa using h), by simp [undoEq]⟩
  case bytes.bin => exact ⟨_, rt_bytes_bin ser jdbc hc _, undoEq_refl _⟩
  case bytes.char =>
    cases ser
    · exact ⟨_, rt_bytes_char jdbc hc _, by simp [undoEq]⟩
    · cases h
  case time.time =>
    simp only [Bool.and_eq_true, decide_eq_true_eq] at h
    exact ⟨_, rt_time ser jdbc hc _ h.1 h.2, undoEq_refl _⟩
  -- every other cell of `supported` is decided by the constructors alone
  all_goals
    unfold roundtripVal marshalJson unmarshalJson unmarshalPb
    rw [hc]
    cases ser <;> exact ⟨_, rfl, by simp [undoEq, passThrough]⟩

end cells

theorem mapE_ok {α ε : Type} (f : α → Except ε α) (eq : α → α → Bool) (l : List α)
    (h : ∀ a ∈ l, ∃ b, f a = .ok b ∧ eq b a = true) :
    ∃ l', mapE f l = .ok l' ∧ all2 eq l' l = true := by
  induction l with
  | nil => exact ⟨[], rfl, rfl⟩
  | cons a r ih =>
    obtain ⟨b, hb, heq⟩ := h a (by simp)
    obtain ⟨r', hr, hreq⟩ := ih (fun x hx => h x (by simp [hx]))
    exact ⟨b :: r', by simp [mapE, hb, hr], by simp [all2, heq, hreq]⟩

theorem rtCol_ok (ser : Serializer) (c : Col) (h : supported ser c.jdbc c.val = true) :
    ∃ c', rtCol ser c = .ok c' ∧ eqCol c' c = true := by
  obtain ⟨v', hv, he⟩ := rt_supported ser c.jdbc c.val h
  exact ⟨{ c with val := v' }, by simp [rtCol, hv], by simp [eqCol, he]⟩

theorem rtImage_ok (ser : Serializer) (im : Image) (h : ∀ c ∈ colsOfImage im, supported ser c.jdbc c.val = true) :
    ∃ im', rtImage ser im = .ok im' ∧ eqImage im' im = true := by
  obtain ⟨rows', h1, h2⟩ := mapE_ok (mapE (rtCol ser)) (all2 eqCol) im.rows fun row hrow =>
    mapE_ok _ _ row fun c hc => rtCol_ok ser c (h c (List.mem_flatten.mpr ⟨row, hrow, hc⟩))
  exact ⟨{ im with rows := rows' }, by simp [rtImage, h1], by simp [eqImage, h2]⟩

theorem rtOpt_ok (ser : Serializer) (o : Option Image) (h : ∀ c ∈ colsOfOpt o, supported ser c.jdbc c.val = true) :
    ∃ o', rtOpt ser o = .ok o' ∧ eqOpt o' o = true := by
  cases o with
  | none => exact ⟨none, rfl, rfl⟩
  | some im =>
    obtain ⟨im', h1, h2⟩ := rtImage_ok ser im h
    exact ⟨some im', by simp [rtOpt, h1], by simp [eqOpt, h2]⟩

theorem splitOn_eq (sep : UInt8) (l : Bytes) : splitOn sep l = Split.splitOn sep l := by
  induction l with
  | nil => rfl
  | cons c r ih =>
    rw [splitOn, Split.splitOn, ih]
    -- as in Lemmas/KeyText.lean, the auxiliary `match` functions differ; here also `==` from `=`
    cases Split.splitOn sep r <;> simp

theorem joinWith_eq (sep : UInt8) (parts : List Bytes) : joinWith sep parts = Split.joinWith sep parts := by
  induction parts with
  | nil => rfl
  | cons p r ih =>
    cases r with
    | nil => rfl
    | cons q r' => simp [joinWith, Split.joinWith, ih]

theorem filterMap_eq_self {α : Type} {f : α → Option α} {l : List α} (h : ∀ a ∈ l, f a = some a) :
    l.filterMap f = l := by
  induction l with
  | nil => rfl
  | cons a r ih => rw [List.filterMap_cons, h a (by simp), ih fun x hx => h x (by simp [hx])]

end Seata.UndoLog
